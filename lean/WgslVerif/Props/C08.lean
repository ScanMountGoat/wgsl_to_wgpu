import WgslVerif.Lemmas.Gen
import WgslVerif.Lemmas.TypeClosure
import WgslVerif.Ext.RustStatic
/-
C08 – Exactly the host-visible structs are emitted, once each.
-/
namespace WgslVerif

def IsEntryArg (m : Module) (h : Nat) : Prop := ∃ e ∈ m.entries, ∃ a ∈ e.fn.args, a.1 = h
def IsEntryResult (m : Module) (h : Nat) : Prop := ∃ e ∈ m.entries, ∃ r, e.fn.result = some r ∧ r.1 = h

/-- a host program has to fill this type: reachable from the type of a module-scope variable,
or taken as an entry-point parameter without being an entry-point return type -/
def HostVisible (m : Module) (h : Nat) : Prop :=
  (∃ g ∈ m.globals, TyReach m g.ty h) ∨ (IsEntryArg m h ∧ ¬ IsEntryResult m h)

/-- standing facts about naga's type arena (checked on every dumped module) -/
structure TypeArenaOk (m : Module) : Prop where
  earlier : TypesEarlier m
  globalsInRange : ∀ g ∈ m.globals, g.ty < m.types.length
  /-- WGSL: struct declarations of one module have pairwise different names -/
  structNamesDistinct : ((indexed m.types).filterMap structNameOf).Nodup

theorem structWanted_iff (m : Module) (ha : TypeArenaOk m) (h : Nat) :
    structWanted m (globalVariableTypes m) h = true ↔ HostVisible m h := by
  have hgv : (globalVariableTypes m).contains h = true ↔ ∃ g ∈ m.globals, TyReach m g.ty h :=
    List.contains_iff_mem.trans (globalVariableTypes_mem m ha.earlier ha.globalsInRange h)
  have harg : (m.entries.any fun e => e.fn.args.any fun a => a.1 == h) = true ↔ IsEntryArg m h := by
    simp only [IsEntryArg, List.any_eq_true, beq_iff_eq]
  have hres : (m.entries.any fun e => (e.fn.result.map (·.1)) == some h) = true ↔ IsEntryResult m h := by
    simp only [IsEntryResult, List.any_eq_true, beq_iff_eq, Option.map_eq_some_iff]
  rw [structWanted, Bool.or_eq_true, Bool.and_eq_true, hgv, harg, Bool.not_eq_true', ← Bool.not_eq_true, hres]
  exact or_comm.trans (or_congr_right and_comm)

/-- **C08**: the emitted struct names are, in arena order, exactly the names of the struct types
that are host-visible – nothing else is emitted, nothing host-visible is missing. -/
theorem C08 {m : Module} {o : Options} {src : String} {path : Option String} {out : Out}
    (hg : gen m o src path = .ok out) :
    out.structs.map (·.name) =
      ((indexed m.types).filter fun ht => structWanted m (globalVariableTypes m) ht.1).filterMap structNameOf := by
  have hp := gen_ok hg
  have hs := hp.structs
  rw [structs_def] at hs
  exact filterMapM_ok_map hs (fun a _ ob hob => structOf_name hob)

/-- **C08** (membership form): a struct named `n` is emitted iff some host-visible struct type
is named `n`. -/
theorem C08_mem {m : Module} {o : Options} {src : String} {path : Option String} {out : Out}
    (ha : TypeArenaOk m) (hg : gen m o src path = .ok out) (n : String) :
    n ∈ out.structs.map (·.name) ↔
      ∃ h ty members span, m.types[h]? = some ty ∧ ty.inner = .struct members span ∧
        ty.name = some n ∧ HostVisible m h := by
  rw [C08 hg, List.mem_filterMap]
  constructor
  · rintro ⟨⟨h, ty⟩, hmem, hn⟩
    obtain ⟨hin, hw⟩ := List.mem_filter.mp hmem
    obtain ⟨members, span, hi, hn⟩ := structNameOf_eq_some.mp hn
    exact ⟨h, ty, members, span, mem_indexed.mp hin, hi, hn, (structWanted_iff m ha h).mp hw⟩
  · rintro ⟨h, ty, members, span, hty, hi, hn, hv⟩
    exact ⟨(h, ty), List.mem_filter.mpr ⟨mem_indexed.mpr hty, (structWanted_iff m ha h).mpr hv⟩,
      structNameOf_eq_some.mpr ⟨members, span, hi, hn⟩⟩

/-- **C08** (once each): no struct is emitted twice. -/
theorem C08_nodup {m : Module} {o : Options} {src : String} {path : Option String} {out : Out}
    (ha : TypeArenaOk m) (hg : gen m o src path = .ok out) :
    (out.structs.map (·.name)).Nodup := by
  rw [C08 hg]
  exact (List.filter_sublist.filterMap structNameOf).nodup ha.structNamesDistinct

theorem structWanted_of_contains {m : Module} {gvt : List Nat} {h : Nat} (hc : gvt.contains h = true) :
    structWanted m gvt h = true := by
  rw [structWanted, hc, Bool.or_true]

theorem findStruct_of_mem (structs : List RStruct) (hn : (structs.map (·.name)).Nodup) (s : RStruct)
    (hs : s ∈ structs) : RustStatic.findStruct structs s.name = some s := by
  have h := find?_key (f := fun s : RStruct => some s.name) (x := s.name) (by rwa [List.filterMap_eq_map']) hs rfl
  simpa [RustStatic.findStruct] using h

theorem mem_names_of_findStruct {structs : List RStruct} {n : String} {s : RStruct}
    (h : RustStatic.findStruct structs n = some s) : n ∈ structs.map (·.name) :=
  List.mem_map.mpr ⟨s, List.mem_of_find?_eq_some h, by simpa using List.find?_some h⟩

/-- a wanted struct type is found in the output under its name (C10's and C01's way from a type to its item) -/
theorem findStruct_wanted {m : Module} {o : Options} {src : String} {path : Option String} {out : Out}
    (ha : TypeArenaOk m) (hg : gen m o src path = .ok out) {h : Nat} {ty : Ty} {ms : List Member} {sp : Nat}
    {n : String} (hty : m.types[h]? = some ty) (hi : ty.inner = .struct ms sp) (hn : ty.name = some n)
    (hw : structWanted m (globalVariableTypes m) h = true) :
    ∃ s, RustStatic.findStruct out.structs n = some s ∧
      rustStruct m o (globalVariableTypes m) h ty ms = .ok s := by
  obtain ⟨s, hs, hr⟩ := structs_complete (gen_ok hg).structs hty hi hw
  have hfind := findStruct_of_mem out.structs (C08_nodup ha hg) s hs
  rw [← Option.some.inj (hn.symm.trans (rustStruct_name hr))] at hfind
  exact ⟨s, hfind, hr⟩

/-- executable form of `TypeArenaOk` (evaluated on every module the harness dumps) -/
def typeArenaOkB (m : Module) : Bool :=
  (List.range m.types.length).all (fun t => (typeSucc m t).all (· < t)) &&
  m.globals.all (fun g => g.ty < m.types.length) &&
  decide ((indexed m.types).filterMap structNameOf).Nodup

theorem typeArenaOkB_sound (m : Module) (h : typeArenaOkB m = true) : TypeArenaOk m := by
  simp only [typeArenaOkB, Bool.and_eq_true, List.all_eq_true, List.mem_range, decide_eq_true_eq] at h
  exact ⟨edges_lt_of_lt (fun _ => typeSucc_eq_nil) h.1.1, h.1.2, h.2⟩

end WgslVerif
