import WgslVerif.Props.C04
import WgslVerif.Props.C03
import WgslVerif.Ext.WgpuBinding
/-
C02 – Bind group layouts pass wgpu's shader-interface validation
(relative to `Ext.WgpuBinding`, the transcription of wgpu-core 24.0.5).
-/
namespace WgslVerif
open WgpuBinding

/-- the layout entry generated for variable `v` is one wgpu accepts for `v` -/
def EntryOk (m : Module) (v : GroupBinding) (e : REntry) : Prop :=
  e.binding = v.binding ∧
  match m.types[v.ty]? with
  | some ty => checkBindingUse v.space ty.inner e.ty = none ∧ bglEntryOk e.ty = none
  | none => False

instance (m : Module) (v : GroupBinding) (e : REntry) : Decidable (EntryOk m v e) := by
  unfold EntryOk
  cases m.types[v.ty]? <;> simp only <;> infer_instance

/-- every variable of every group has, at its own index, an entry wgpu's `check_binding_use` and
`create_bind_group_layout` accept (visibility is C03) -/
def C02Ok (m : Module) (out : Out) : Prop :=
  ∀ g ∈ out.groups, g.entries.length = (varsOf m g.no).length ∧
    ∀ ve ∈ (varsOf m g.no).zip g.entries, EntryOk m ve.1 ve.2

instance (m : Module) (out : Out) : Decidable (C02Ok m out) := by unfold C02Ok; infer_instance

/-- facts about resource variables that naga's WGSL front end and validator guarantee
(`valid/type.rs`, `valid/interface.rs`, WGSL grammar); evaluated on every dumped module -/
def shapeOk (inner : TypeInner) (space : Space) : Bool :=
  match inner with
  | .image dim arrayed cls =>
    space == .handle &&
    (match arrayed, dim with
      | true, .d2 => true | true, .cube => true | true, _ => false | false, _ => true) &&
    (match cls with
      | .sampled k multi => (k == .float || k == .sint || k == .uint) && (!multi || (dim == .d2 && !arrayed))
      | .depth multi => !multi || (dim == .d2 && !arrayed)
      | .storage _ a => dim != .cube && (a.load || a.store) && (!a.atomic || (a.load && a.store)))
  | .sampler _ => space == .handle
  | .struct .. | .array .. | .scalar _ | .vector .. | .matrix .. =>
    (match space with
      | .uniform => true
      | .storage a => a.load && !a.atomic
      | _ => false)
  | _ => true   -- unsupported kinds make generation panic; they never reach an entry

def resourceShapeOk (m : Module) (v : GroupBinding) : Bool :=
  match m.types[v.ty]? with
  | none => false
  | some ty => shapeOk ty.inner v.space

def resourceShapesB (m : Module) : Bool := (boundGlobals m).all (resourceShapeOk m)

theorem viewDim_matches {dim : ImageDim} {arrayed : Bool} {vd : ViewDim}
    (h : viewDim dim arrayed = .ok vd) : viewDimMatches dim arrayed vd = true := by
  cases dim <;> cases arrayed <;> cases h <;> rfl

/-- only a non-arrayed 2D image may be multisampled (`shapeOk`), and its view is `D2` -/
theorem viewDim_d2 {dim : ImageDim} {arrayed : Bool} {vd : ViewDim}
    (h : viewDim dim arrayed = .ok vd) (hd : (dim == .d2 && !arrayed) = true) : vd = .d2 := by
  cases dim <;> cases arrayed <;> cases hd <;> cases h <;> rfl

/-- a storage texture that is not a cube passes the entry rules of `create_bind_group_layout` -/
theorem bglEntryOk_storage {dim : ImageDim} {arrayed : Bool} {vd : ViewDim}
    (h : viewDim dim arrayed = .ok vd) (hd : (dim != .cube) = true) (acc : StAccess) (fmt : String) :
    bglEntryOk (.storageTexture acc fmt vd) = none := by
  cases dim <;> cases arrayed <;> cases hd <;> cases h <;> rfl

/-- `storage_access` inverts wgpu's reading of the access flags (validation.rs:531-544) -/
theorem storageAccess_ok {a : Access} {acc : StAccess} (h : storageAccess a = .ok acc)
    (hat : (!a.atomic || (a.load && a.store)) = true) (fmt : String) (vd : ViewDim) :
    expectedClass (.storageTexture acc fmt vd) = some (.storage fmt a) := by
  obtain ⟨l, s, t⟩ := a
  cases l <;> cases s <;> cases t <;> cases hat <;> cases h <;> rfl

/-- what the class arm of `bind_group_layout_entry` produces -/
theorem classArm_spec (dim : ImageDim) (arrayed : Bool) (cls : ImageClass) (vd : ViewDim) (bt : BindingTy)
    (hvd : viewDim dim arrayed = .ok vd)
    (hcls : (match cls with
      | .sampled k multi => (k == .float || k == .sint || k == .uint) && (!multi || (dim == .d2 && !arrayed))
      | .depth multi => !multi || (dim == .d2 && !arrayed)
      | .storage _ a => dim != .cube && (a.load || a.store) && (!a.atomic || (a.load && a.store))) = true)
    (h : (match cls with
      | .sampled k multi =>
        (match k with
        | .sint => pure (.texture .sint vd multi)
        | .uint => pure (.texture .uint vd multi)
        | .float => pure (.texture (.float true) vd multi)
        | _ => todo "sample-kind" : G BindingTy)
      | .depth multi => pure (.texture .depth vd multi)
      | .storage fmt access => do
        let acc ← storageAccess access
        pure (.storageTexture acc fmt vd)) = .ok bt)
    (hnm : cls ≠ .sampled .float true) :
    viewDimOf bt = some vd ∧ expectedClass bt = some cls ∧ bglEntryOk bt = none := by
  cases cls with
  | sampled k multi =>
    cases multi with
    | false => cases k <;> cases h <;> exact ⟨rfl, rfl, rfl⟩
    | true =>
      obtain rfl := viewDim_d2 hvd (Bool.and_eq_true_iff.mp hcls).2
      cases k with
      | float => exact absurd rfl hnm
      | _ => cases h <;> exact ⟨rfl, rfl, rfl⟩
  | depth multi =>
    cases h
    cases multi with
    | false => exact ⟨rfl, rfl, rfl⟩
    | true => obtain rfl := viewDim_d2 hvd hcls; exact ⟨rfl, rfl, rfl⟩
  | storage fmt a =>
    obtain ⟨acc, hacc, h⟩ := Except.bind_ok h
    cases h
    obtain ⟨hcls, hat⟩ := Bool.and_eq_true_iff.mp hcls
    exact ⟨rfl, storageAccess_ok hacc hat fmt vd,
      bglEntryOk_storage hvd (Bool.and_eq_true_iff.mp hcls).1 acc fmt⟩

/-- `shapeOk`, `bindingType` and `checkBindingUse` each have one arm for the five buffer kinds
(struct, array, scalar, vector, matrix). This is that arm, stated for `.scalar`; it applies to the
other four as it stands, since both sides unfold to the same term. -/
theorem bufferArm_accepted (s : Scalar) (space : Space) (hs : shapeOk (.scalar s) space = true) :
    checkBindingUse space (.scalar s) (.buffer (bufferBindingType space) false) = none := by
  cases space with
  | uniform => rfl
  | storage a =>
    obtain ⟨l, st, t⟩ := a
    -- `shapeOk` leaves only `load` without `atomic`; either `store` is accepted
    cases l <;> cases t <;> cases hs
    cases st <;> rfl
  | _ => cases hs

/-- the binding type the generator synthesises is accepted by wgpu for the variable it was
synthesised from – every texture dimension / arrayness / class / multisampling / storage format
and access, both samplers, uniform and storage buffers of either access -/
theorem bindingType_accepted (ty : Ty) (space : Space) (bt : BindingTy)
    (hs : shapeOk ty.inner space = true) (hnm : ∀ dim arrayed, ty.inner ≠ .image dim arrayed (.sampled .float true))
    (h : bindingType ty space = .ok bt) :
    checkBindingUse space ty.inner bt = none ∧ bglEntryOk bt = none := by
  unfold bindingType at h
  cases hi : ty.inner <;> rw [hi] at h hs <;> simp only at h
  case image dim arrayed cls =>
    obtain ⟨vd, hvd, h⟩ := Except.bind_ok h
    obtain ⟨h1, h2, h3⟩ := classArm_spec dim arrayed cls vd bt hvd (Bool.and_eq_true_iff.mp hs).2 h
      (fun e => hnm dim arrayed (by rw [hi, e]))
    refine ⟨?_, h3⟩
    simp only [checkBindingUse, h1, h2, viewDim_matches hvd]; rfl
  case sampler cmp => cases h; cases cmp <;> exact ⟨rfl, rfl⟩
  case scalar | vector | matrix | array | struct =>
    cases h
    -- the five kinds share one arm of `shapeOk` and `checkBindingUse`: `bufferArm_accepted` applies as it stands
    exact ⟨bufferArm_accepted default space hs, rfl⟩
  all_goals cases h

/-- no bound variable is a multisampled float texture (`texture_multisampled_2d<f32>`) -/
def noMultisampledFloat (m : Module) : Bool :=
  (boundGlobals m).all fun v =>
    match m.types[v.ty]? with
    | some ty => match ty.inner with
      | .image _ _ (.sampled .float true) => false
      | _ => true
    | none => true

/-- **C02 counterexample** (recorded finding): `texture_multisampled_2d<f32>` gets
`Float { filterable: true }` with `multisampled: true`, which `create_bind_group_layout` rejects
unconditionally. The repo's own snapshot test pins this output, so it is not repaired here. -/
theorem C02_counterexample :
    (bindingType { name := none, inner := .image .d2 false (.sampled .float true), size := 0, laySize := 0,
                   layAlign := 1, snake := "" } .handle).toOption.bind bglEntryOk
      = some .sampleTypeFloatFilterableBindingMultisampled := by decide

/-- **C02 (partial)**: for every module without a multisampled float texture, every layout entry
of a successful generation is accepted by wgpu's `check_binding_use` for the variable at its
`@group/@binding` and by the entry rules of `create_bind_group_layout` (visibility: C03). -/
theorem C02_partial {m : Module} {o : Options} {src : String} {path : Option String} {out : Out}
    (hshapes : resourceShapesB m = true) (hnmf : noMultisampledFloat m = true)
    (hg : gen m o src path = .ok out) : C02Ok m out := by
  intro g hgm
  have hentries := gen_group_entries hg hgm
  refine ⟨hentries.length_eq, fun ve hve => ?_⟩
  obtain ⟨hb, _, ty, hty, hbt⟩ := layoutEntry_ok (hentries.zip ve hve)
  have hmem : ve.1 ∈ boundGlobals m := (List.mem_filter.mp (List.of_mem_zip hve).1).1
  have hshape := List.all_eq_true.mp hshapes _ hmem
  have hnm := List.all_eq_true.mp hnmf _ hmem
  unfold EntryOk
  rw [resourceShapeOk, hty] at hshape
  rw [hty] at hnm ⊢
  exact ⟨hb, bindingType_accepted ty _ _ hshape (fun dim arrayed e => by simp [e] at hnm) hbt⟩

/-- "the generated layouts taken in pipeline-layout order": the pipeline layout has, at index `g`, the layout of group `g`,
for every group a resource variable is declared in – so what `create_*_pipeline` looks up at a resource's `@group` is the
layout `C02Ok` speaks about -/
def C02PipelineOk (m : Module) (out : Out) : Prop :=
  ∀ v ∈ boundGlobals m, out.pipelineGroups[v.group]? = some v.group

instance (m : Module) (out : Out) : Decidable (C02PipelineOk m out) := by unfold C02PipelineOk; infer_instance

/-- **C02** (pipeline-layout order): every resource variable's group layout sits at the variable's `@group` index of the
pipeline layout. -/
theorem C02_pipeline {m : Module} {o : Options} {src : String} {path : Option String} {out : Out}
    (hg : gen m o src path = .ok out) : C02PipelineOk m out := by
  intro v hv
  obtain ⟨_, _, hpipeline, _⟩ := gen_groups hg
  rw [hpipeline]
  exact List.getElem?_range (lt_groupCount hv)

/-- **C02** ("is visible to that stage"): in a successful generation, the layout entry of a resource variable is visible to every
stage that has an entry point statically using the variable (directly or through helper functions) - the stage set is C03's,
here attached to the entry that `check_stage` looks up at the variable's `@group/@binding` (`C02_partial`, `C02_pipeline`). -/
theorem C02_visible {m : Module} {o : Options} {src : String} {path : Option String} {out : Out}
    (hv : CallsEarlier m) (hg : gen m o src path = .ok out) :
    ∀ g ∈ out.groups, ∀ ve ∈ (varsOf m g.no).zip g.entries, ∀ n, ve.1.name = some n →
      ∀ e ∈ m.entries, StaticallyUses m e n → ve.2.vis.has e.stage = true := by
  intro g hgm ve hve n hn e he hu
  obtain ⟨_, hvis, _⟩ := layoutEntry_ok ((gen_group_entries hg hgm).zip ve hve)
  rw [hvis n hn]
  exact (C03_visibility m hv n e.stage).mpr ⟨e, he, rfl, hu⟩

end WgslVerif
