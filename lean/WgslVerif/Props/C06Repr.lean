import WgslVerif.Props.C06
/-
C06 (representation clause): "… under the selected representation (plain arrays, glam types falling
back to arrays where glam has no equivalent, or nalgebra types)".  `reprOk` says, guided by the WGSL
type alone, which family of Rust type each level must come from; it does not mention the
generator's mapping functions.
-/
namespace WgslVerif

/-- glam has a vector type for this scalar: f32 / f64 / u32 / i32 -/
def glamHasVec (s : Scalar) : Bool :=
  (s.kind == .float && (s.width == 4 || s.width == 8)) || ((s.kind == .uint || s.kind == .sint) && s.width == 4)

/-- glam has a matrix type for this shape: square, f32 or f64 -/
def glamHasMat (cols rows : VecSize) (width : Nat) : Bool := cols == rows && (width == 4 || width == 8)

def isPrim : RustTy → Bool | .prim _ => true | _ => false
def isPrimArray : RustTy → Bool | .array (.prim _) _ => true | _ => false
def isPrimArray2 : RustTy → Bool | .array (.array (.prim _) _) _ => true | _ => false
def isGlam : RustTy → Bool | .glam _ => true | _ => false
def isNalgebraV : RustTy → Bool | .nalgebraV (.prim _) _ => true | _ => false
def isNalgebraM : RustTy → Bool | .nalgebraM (.prim _) _ _ => true | _ => false
def isNamed : RustTy → Bool | .named _ => true | _ => false

/-- the Rust type comes from the family the selected representation prescribes for the WGSL type -/
def reprOk (m : Module) (repr : Repr3) : Nat → Ty → RustTy → Bool
  | 0, _, _ => false
  | fuel + 1, ty, r =>
    match ty.inner with
    | .scalar _ => isPrim r
    | .atomic _ => isPrim r
    | .vector _ s =>
      match repr with
      | .rust => isPrimArray r
      | .glam => if glamHasVec s then isGlam r else isPrimArray r
      | .nalgebra => isNalgebraV r
    | .matrix cols rows s =>
      match repr with
      | .rust => isPrimArray2 r
      | .glam => if glamHasMat cols rows s.width then isGlam r else isPrimArray2 r
      | .nalgebra => isNalgebraM r
    | .array base (.const _) _ =>
      (match r, m.types[base]? with
       | .array e _, some bt => reprOk m repr fuel bt e
       | _, _ => false)
    | .struct .. => isNamed r
    | _ => false

/-- `glamHasVec` is the domain of the glam rows of `glamVectorType` -/
theorem GlamVec.hasVec {n : VecSize} {s : Scalar} {g : String} (h : GlamVec n s g) : glamHasVec s = true := by
  cases h <;> rfl

theorem GlamVec.of_hasVec (n : VecSize) {s : Scalar} (h : glamHasVec s = true) : ∃ g, GlamVec n s g := by
  obtain ⟨k, w⟩ := s
  simp only [glamHasVec, Bool.or_eq_true, Bool.and_eq_true, beq_iff_eq] at h
  obtain ⟨rfl, rfl | rfl⟩ | ⟨rfl | rfl, rfl⟩ := h <;> cases n <;> exact ⟨_, by constructor⟩

/-- `glamHasMat` is the domain of the glam rows of `glamMatrixType` -/
theorem GlamMat.hasMat {rows cols : VecSize} {w : Nat} {g : String} (h : GlamMat rows cols w g) :
    glamHasMat cols rows w = true := by
  cases h <;> rfl

theorem GlamMat.of_hasMat {rows cols : VecSize} {w : Nat} (h : glamHasMat cols rows w = true) :
    ∃ g, GlamMat rows cols w g := by
  simp only [glamHasMat, Bool.and_eq_true, beq_iff_eq, Bool.or_eq_true] at h
  obtain ⟨rfl, rfl | rfl⟩ := h <;> cases cols <;> exact ⟨_, by constructor⟩

/-- **C06** (representation): every type the generator emits comes from the family the selected
representation prescribes – glam types exactly where glam has an equivalent, plain arrays
otherwise, nalgebra types under Nalgebra. -/
theorem C06_repr (m : Module) (repr : Repr3) : ∀ fuel ty r, rustType m repr fuel ty = .ok r →
    reprOk m repr fuel ty r = true := by
  intro fuel ty r h
  replace h := rustType_ok h
  induction h with
  | scalar hi _ => simp [reprOk, hi, isPrim]
  | atomic hi _ => simp [reprOk, hi, isPrim]
  | @vector fuel ty n s r hi hv =>
    rw [reprOk]
    simp only [hi]
    cases hv with
    | array hn hg _ =>
      cases repr with
      | rust => rfl
      | glam =>
        -- no glam row for `n`, `s`: glam has no vector type for `s`
        have : glamHasVec s = false :=
          Bool.eq_false_iff.mpr fun hv => (GlamVec.of_hasVec n hv).elim (hg rfl)
        simp only [this]
        rfl
      | nalgebra => exact (hn rfl).elim
    | glam hg =>
      simp only [hg.hasVec]
      rfl
    | nalgebra _ => rfl
  | @matrix fuel ty cols rows s r hi hv =>
    rw [reprOk]
    simp only [hi]
    cases hv with
    | array hn hg _ =>
      cases repr with
      | rust => rfl
      | glam =>
        have : glamHasMat cols rows s.width = false :=
          Bool.eq_false_iff.mpr fun hv => (GlamMat.of_hasMat hv).elim (hg rfl)
        simp only [this]
        rfl
      | nalgebra => exact (hn rfl).elim
    | glam hg =>
      simp only [hg.hasMat]
      rfl
    | nalgebra _ => rfl
  | array hi hb _ _ ih => simp [reprOk, hi, hb, ih]
  | struct hi _ => simp [reprOk, hi, isNamed]

end WgslVerif
