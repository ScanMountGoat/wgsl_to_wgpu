import WgslVerif.Lemmas.BindData
/-
C11 – Group numbering contract: dense groups, unique slots, or a typed error.

Statements are about `getBindGroupDataOf bs`, `bs` = the bound variables in declaration
order (`getBindGroupData m = getBindGroupDataOf (boundGlobals m)` by definition).
The specification side (`firstClash`, `Dense`, `lookup`, `filter`) does not mention the
sorted-map implementation.
-/
namespace WgslVerif
open C11

/-- the (group, binding) pair of a bound variable -/
def GroupBinding.slot (b : GroupBinding) : Nat × Nat := (b.group, b.binding)

/-- The first variable, in declaration order after the processed prefix `p`, whose
(@group, @binding) pair repeats an earlier one. -/
def firstClashFrom (p : List GroupBinding) : List GroupBinding → Option GroupBinding
  | [] => none
  | b :: bs => if Clashes p b then some b else firstClashFrom (p ++ [b]) bs

def firstClash (bs : List GroupBinding) : Option GroupBinding := firstClashFrom [] bs

/-- the used group indices are exactly `0..n-1` for some `n` -/
def Dense (bs : List GroupBinding) : Prop := ∃ n, ∀ g, (∃ b ∈ bs, b.group = g) ↔ g < n

theorem clashes_iff (p : List GroupBinding) (b : GroupBinding) :
    Clashes p b = true ↔ b.slot ∈ p.map GroupBinding.slot := by
  unfold Clashes GroupBinding.slot
  simp only [List.any_eq_true, List.mem_map, decide_eq_true_eq, Prod.mk.injEq]

theorem firstClashFrom_none (p bs : List GroupBinding) :
    firstClashFrom p bs = none ∧ (p.map GroupBinding.slot).Nodup ↔
      ((p ++ bs).map GroupBinding.slot).Nodup := by
  induction bs generalizing p with
  | nil => simp [firstClashFrom]
  | cons b bs ih =>
    -- `p ++ b :: bs = (p ++ [b]) ++ bs`, and `p ++ [b]` is distinct iff `p` is and `b` is new
    rw [List.append_cons, ← ih, firstClashFrom, List.map_append, List.map_singleton,
      (List.perm_append_singleton _ _).nodup_iff, List.nodup_cons, ← clashes_iff]
    cases Clashes p b <;> simp

theorem firstClash_none (bs : List GroupBinding) :
    firstClash bs = none ↔ (bs.map GroupBinding.slot).Nodup := by
  simpa [firstClash] using firstClashFrom_none [] bs

theorem firstClashFrom_some (p bs : List GroupBinding) (b : GroupBinding)
    (h : firstClashFrom p bs = some b) :
    ∃ pre post, bs = pre ++ b :: post ∧ Clashes (p ++ pre) b = true ∧
      firstClashFrom p pre = none := by
  induction bs generalizing p with
  | nil => cases h
  | cons x xs ih =>
    rw [firstClashFrom] at h
    split at h
    · cases h
      exact ⟨[], xs, rfl, by rwa [List.append_nil], rfl⟩
    · obtain ⟨pre, post, rfl, hcl, hn⟩ := ih (p ++ [x]) h
      rw [List.append_assoc] at hcl
      exact ⟨x :: pre, post, rfl, hcl, by rwa [firstClashFrom, if_neg ‹_›]⟩

/-- `firstClash bs = some b`: `b` repeats the pair of an earlier variable and no
variable before `b` does. -/
theorem firstClash_some (bs : List GroupBinding) (b : GroupBinding) (h : firstClash bs = some b) :
    ∃ pre post, bs = pre ++ b :: post ∧ b.slot ∈ pre.map GroupBinding.slot ∧
      (pre.map GroupBinding.slot).Nodup := by
  obtain ⟨pre, post, e, hc, hn⟩ := firstClashFrom_some [] bs b h
  exact ⟨pre, post, e, (clashes_iff _ _).mp hc, (firstClash_none pre).mp hn⟩

/-- The invariant of `collect`: the map represents the processed prefix `p`, and its keys are the
groups used in `p`. -/
theorem collect_spec (bs p : List GroupBinding) (gs : Groups) (hr : RepFrom 0 gs p)
    (hk : ∀ k, k ∈ gs.map (·.1) ↔ k ∈ p.map (·.group)) :
    match firstClashFrom p bs with
    | some b => collect bs gs = .error (.duplicateBinding b.binding)
    | none => ∃ gs', collect bs gs = .ok gs' ∧ RepFrom 0 gs' (p ++ bs) ∧
        ∀ k, k ∈ gs'.map (·.1) ↔ k ∈ (p ++ bs).map (·.group) := by
  induction bs generalizing p gs with
  | nil => exact ⟨gs, rfl, by rwa [List.append_nil], by rwa [List.append_nil]⟩
  | cons b bs ih =>
    have hu := upsert_spec b gs hr.sorted
    rw [hr.content _ (Nat.zero_le _), any_filter_binding] at hu
    unfold firstClashFrom collect
    cases hgs : upsert b gs with
    | error e => rw [hgs] at hu; rw [hu.1, hu.2]; rfl
    | ok gs' =>
      rw [hgs] at hu
      obtain ⟨hc, hs, hlook, hkeys⟩ := hu
      rw [hc]
      have := ih (p ++ [b]) gs'
        ⟨hs, fun _ _ _ => Nat.zero_le _, fun g _ => by
          rw [hlook, hr.content g (Nat.zero_le _), List.filter_append]
          simp [List.filter_cons]⟩
        (fun k => by rw [hkeys, hk]; simp [or_comm])
      rwa [List.append_assoc] at this

/-- one more than the largest used group index (0 when no variable is bound) -/
def groupCount (bs : List GroupBinding) : Nat := bs.foldr (fun b a => max (b.group + 1) a) 0

/-- every used group index is 0 or has its predecessor used (no ranges: indices go up to 2^32) -/
def denseB (bs : List GroupBinding) : Bool :=
  bs.all fun b => b.group = 0 || bs.any (fun b' => b'.group + 1 = b.group)

/-- The whole contract as one executable function of the declared (@group,@binding) list. -/
def specOutcome (bs : List GroupBinding) : Except GenError Groups :=
  match firstClash bs with
  | some b => .error (.duplicateBinding b.binding)
  | none =>
    if denseB bs then
      .ok ((List.range (groupCount bs)).map fun g => (g, bs.filter (·.group = g)))
    else .error .nonConsecutive

theorem groupCount_cons (b : GroupBinding) (bs : List GroupBinding) :
    groupCount (b :: bs) = max (b.group + 1) (groupCount bs) := rfl

theorem lt_groupCount {bs : List GroupBinding} {b : GroupBinding} (h : b ∈ bs) :
    b.group < groupCount bs :=
  Nat.lt_of_lt_of_eq (le_foldr_max (fun b => b.group + 1) h) List.foldr_map

/-- `groupCount` is attained: it is 0 or one more than some used index -/
theorem groupCount_witness (bs : List GroupBinding) :
    groupCount bs = 0 ∨ ∃ b ∈ bs, b.group + 1 = groupCount bs := by
  let P (a : Nat) := a = 0 ∨ ∃ b ∈ bs, b.group + 1 = a
  exact List.foldrRecOn (motive := P) bs _ (.inl rfl) fun _ ha b hb => max_ind P (.inr ⟨b, hb, rfl⟩) ha

theorem used_iff_lt_groupCount {bs : List GroupBinding}
    (down : ∀ b ∈ bs, ∀ g < b.group, ∃ b' ∈ bs, b'.group = g) (g : Nat) :
    (∃ b ∈ bs, b.group = g) ↔ g < groupCount bs := by
  refine ⟨fun ⟨b, hb, e⟩ => e ▸ lt_groupCount hb, fun hg => ?_⟩
  rcases groupCount_witness bs with e | ⟨b, hb, e⟩
  · omega
  · rcases Nat.lt_or_eq_of_le (by omega : g ≤ b.group) with hlt | rfl
    · exact down b hb g hlt
    · exact ⟨b, hb, rfl⟩

/-- the `n` of `Dense` can only be `groupCount` -/
theorem Dense.iff_lt {bs : List GroupBinding} (h : Dense bs) (g : Nat) :
    (∃ b ∈ bs, b.group = g) ↔ g < groupCount bs := by
  obtain ⟨n, hn⟩ := h
  exact used_iff_lt_groupCount
    (fun b hb g hg => (hn g).mpr (Nat.lt_trans hg ((hn b.group).mp ⟨b, hb, rfl⟩))) g

theorem denseB_iff (bs : List GroupBinding) : denseB bs = true ↔ Dense bs := by
  simp only [denseB, List.all_eq_true, Bool.or_eq_true, List.any_eq_true, decide_eq_true_eq]
  constructor
  · intro h
    -- closed under predecessor, hence downwards
    have down : ∀ d g, (∃ b ∈ bs, b.group = g + d) → ∃ b ∈ bs, b.group = g := by
      intro d
      induction d with
      | zero => exact fun g hg => hg
      | succ d ih =>
        intro g ⟨b, hb, e⟩
        rcases h b hb with h0 | ⟨b', hb', e'⟩
        · omega
        · exact ih g ⟨b', hb', by omega⟩
    exact ⟨groupCount bs, used_iff_lt_groupCount fun b hb g hg =>
      down (b.group - g) g ⟨b, hb, by omega⟩⟩
  · intro d b hb
    rcases Nat.eq_zero_or_pos b.group with h0 | hpos
    · exact Or.inl h0
    · obtain ⟨b', hb', e⟩ := (d.iff_lt (b.group - 1)).mpr (by have := lt_groupCount hb; omega)
      exact Or.inr ⟨b', hb', by omega⟩

/-- C11 in one line: the traversal computes exactly the contract. -/
theorem C11_exec (bs : List GroupBinding) : getBindGroupDataOf bs = specOutcome bs := by
  have h := collect_spec bs [] [] ⟨trivial, fun _ _ h => (nomatch h), fun _ _ => rfl⟩ (fun k => by simp)
  unfold getBindGroupDataOf specOutcome firstClash
  cases hf : firstClashFrom [] bs with
  | some b => rw [hf] at h; rw [h]
  | none =>
    rw [hf] at h
    obtain ⟨gs, h1, hr, hk⟩ := h
    rw [List.nil_append] at hr hk
    rw [h1]
    by_cases d : Dense bs
    · have hkeys : gs.map (·.1) = List.range (groupCount bs) :=
        eq_range_of_pairwise_lt ((sorted_iff gs).mp hr.sorted) fun k => by rw [hk, List.mem_map, d.iff_lt]
      have hkl : gs.map (·.1) = List.range gs.length := by
        rw [← List.length_map (f := (·.1)), hkeys, List.length_range]
      simp only [if_pos hkl, if_pos ((denseB_iff bs).mpr d)]
      rw [eq_map_keys hr.sorted, hkeys]
      simp only [hr.content _ (Nat.zero_le _)]
    · have hkl : gs.map (·.1) ≠ List.range gs.length := fun h =>
        d ⟨gs.length, fun g => by rw [← List.mem_range, ← h, hk, List.mem_map]⟩
      simp only [if_neg hkl, if_neg fun h => d ((denseB_iff bs).mp h)]

/-! ### The property theorems: `specOutcome`, read off -/

/-- C11 (duplicate): the dedicated duplicate-binding error is returned exactly when some
(@group,@binding) pair repeats, and it reports the index of the first repeated pair in
declaration order. -/
theorem C11_dup (bs : List GroupBinding) (n : Nat) :
    getBindGroupDataOf bs = .error (.duplicateBinding n) ↔
      ∃ b, firstClash bs = some b ∧ b.binding = n := by
  rw [C11_exec, specOutcome]
  cases firstClash bs with
  | some b => simp
  | none => cases denseB bs <;> simp

/-- C11 (gaps): with all pairs distinct, the non-consecutive error is returned exactly when
the used group indices are not `0..n-1`. -/
theorem C11_gap (bs : List GroupBinding) :
    getBindGroupDataOf bs = .error .nonConsecutive ↔ firstClash bs = none ∧ ¬ Dense bs := by
  rw [C11_exec, specOutcome, ← denseB_iff]
  cases firstClash bs with
  | some b => simp
  | none => cases denseB bs <;> simp

/-- C11 (success): generation of the group data succeeds iff all pairs are distinct and the
groups are dense from 0. -/
theorem C11_ok (bs : List GroupBinding) :
    (∃ gs, getBindGroupDataOf bs = .ok gs) ↔
      (bs.map GroupBinding.slot).Nodup ∧ Dense bs := by
  rw [C11_exec, specOutcome, ← firstClash_none, ← denseB_iff]
  cases firstClash bs with
  | some b => simp
  | none => cases denseB bs <;> simp

/-- C11 (totality): the only outcomes are success or one of the two dedicated errors –
there is no panic path in the traversal. -/
theorem C11_total (bs : List GroupBinding) :
    (∃ gs, getBindGroupDataOf bs = .ok gs) ∨
    (∃ n, getBindGroupDataOf bs = .error (.duplicateBinding n)) ∨
    getBindGroupDataOf bs = .error .nonConsecutive := by
  rw [C11_exec, specOutcome]
  cases firstClash bs with
  | some b => simp
  | none => cases denseB bs <;> simp

/-- the successful outcome, as a function of the declared list: the groups `0..n-1`, none empty -/
theorem getBindGroupDataOf_ok {bs : List GroupBinding} {gs : Groups}
    (h : getBindGroupDataOf bs = .ok gs) :
    gs = ((List.range (groupCount bs)).map fun g => (g, bs.filter (·.group = g))) ∧
      ∀ g < groupCount bs, bs.filter (·.group = g) ≠ [] := by
  rw [C11_exec, specOutcome] at h
  split at h
  · cases h
  · split at h
    · refine ⟨(Except.ok.inj h).symm, fun g hg => ?_⟩
      obtain ⟨b, hb, e⟩ := (((denseB_iff bs).mp ‹_›).iff_lt g).mpr hg
      exact List.ne_nil_of_mem (List.mem_filter.mpr ⟨hb, decide_eq_true e⟩)
    · cases h

/-- C11 (content): on success the map has keys `0..n-1` in order, and group `g` holds exactly
the variables declared with `@group(g)`, each once, with its own index, in declaration order;
no group is empty, none is merged or renumbered. -/
theorem C11_ok_content (bs : List GroupBinding) (gs : Groups)
    (h : getBindGroupDataOf bs = .ok gs) :
    gs.map (·.1) = List.range gs.length ∧
    (∀ g, lookup gs g = bs.filter (·.group = g)) ∧
    (∀ g l, (g, l) ∈ gs → l = bs.filter (·.group = g) ∧ l ≠ []) := by
  obtain ⟨rfl, hne⟩ := getBindGroupDataOf_ok h
  refine ⟨by rw [map_fst_map_pair, List.length_map, List.length_range], fun g => ?_, fun g l hm => ?_⟩
  · rw [lookup_map_range]
    split
    · rfl
    · exact (List.filter_eq_nil_iff.mpr fun b hb e => ‹¬ g < _› (by
        rw [← of_decide_eq_true e]; exact lt_groupCount hb)).symm
  · obtain ⟨k, hk, e⟩ := List.mem_map.mp hm
    obtain ⟨rfl, rfl⟩ := Prod.mk.inj e
    exact ⟨rfl, hne k (List.mem_range.mp hk)⟩

/-! ### Non-vacuity: concrete inputs meeting each case -/

private def gb (g b : Nat) : GroupBinding := ⟨g, b, none, 0, .uniform⟩

example : getBindGroupDataOf [gb 1 0, gb 0 3, gb 0 1, gb 1 7] =
    .ok [(0, [gb 0 3, gb 0 1]), (1, [gb 1 0, gb 1 7])] := rfl
example : getBindGroupDataOf [gb 0 0, gb 2 0] = .error .nonConsecutive := rfl
example : getBindGroupDataOf [gb 0 0, gb 1 5, gb 0 5, gb 1 5, gb 0 5] =
    .error (.duplicateBinding 5) := rfl
example : firstClash [gb 0 0, gb 1 5, gb 0 5, gb 1 5, gb 0 5] = some (gb 1 5) := rfl

end WgslVerif
