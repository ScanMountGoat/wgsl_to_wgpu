import WgslVerif.Props.C10
import WgslVerif.Props.C08
/-
C10 – nested structs: the layout encase's derive computes for an emitted struct is the WGSL one,
at every nesting depth (struct members, arrays of structs, structs of arrays of structs ...).

`Encase.Meta rs r p` is encase's metadata as a RELATION (no fuel): the Rust type `r`, with the
struct items `rs` in scope, has (alignment, size) `p`.  `Encase.structMeta` (the executable,
fuel-bounded form the correspondence check evaluates on the real output) is sound for it
(`structMeta_sound`) and the relation is functional (`Meta.det`), so whenever the executable
form answers, it answers what the theorem says.

`C10_struct`: for a module whose host-shareable struct types are `natural` (members
glam-representable leaves, fixed arrays and nested structs of those, no builtin members, the
recorded offsets and span being the attribute-free WGSL layout), every emitted struct
reachable from a variable has, field by field, encase metadata equal to the WGSL
(AlignOf, SizeOf) of the member, the offsets encase computes are the recorded WGSL offsets,
and the size is the recorded span.
The classes outside `natural` are the recorded findings (explicit `@size/@align`, f64,
builtin members).  A trailing runtime-sized array is inside it: `C10_runtime`.
-/
namespace WgslVerif
open WgslLayout (roundUp)

namespace Encase

/-- encase's (alignment, size) of a field type, relationally -/
inductive Meta (rs : List RStruct) : RustTy → Nat × Nat → Prop
  | leaf {r : RustTy} {p : Nat × Nat} : isLeaf r = true → alignSizeOf (fun _ => none) r = some p → Meta rs r p
  | array {t : RustTy} {n a sz : Nat} : Meta rs t (a, sz) → Meta rs (.array t n) (a, n * roundUp a sz)
  | vec {t : RustTy} {a sz : Nat} : Meta rs t (a, sz) → Meta rs (.vec t) (a, roundUp a sz)
  | named {name : String} {s : RStruct} {metas : List (Nat × Nat)} :
      RustStatic.findStruct rs name = some s →
      metas.length = s.fields.length →
      (∀ i (h1 : i < s.fields.length) (h2 : i < metas.length), Meta rs s.fields[i].ty metas[i]) →
      Meta rs (.named name) ((structLayout metas).2.2, (structLayout metas).2.1)

end Encase

namespace C10S
open Encase (Meta isLeaf)

/-- (AlignOf, SizeOf) of the members by the WGSL rules -/
def memberMetas (m : Module) (fuel : Nat) (ms : List Member) : List (Nat × Nat) :=
  ms.map fun mem => ((m.types[mem.ty]?).bind (WgslLayout.alignSize m fuel)).getD (1, 0)

/-- the domain of `C10_struct`: glam-representable leaves, fixed arrays and structs of those, no builtin members, and
the recorded offsets / span are the attribute-free WGSL layout (no `@align` / `@size` moved a member) -/
def natural (m : Module) : Nat → Ty → Bool
  | 0, _ => false
  | fuel + 1, ty =>
    match ty.inner with
    | .array base (.const _) _ =>
      (match m.types[base]? with | some bt => natural m fuel bt | none => false)
    -- a runtime-sized array: legal only as the last member of a top-level struct (WGSL), which is also the only place
    -- the generator accepts it (`rts-not-last`, `rts-in-type` panics)
    | .array base .dynamic _ =>
      (match m.types[base]? with | some bt => natural m fuel bt | none => false)
    | .struct ms span =>
      (ms.all fun mem => !isBuiltinMember mem &&
        (match m.types[mem.ty]? with | some mt => natural m fuel mt | none => false)) &&
      ((Encase.structLayout (memberMetas m fuel ms)).1 == ms.map (·.offset) &&
       (Encase.structLayout (memberMetas m fuel ms)).2.1 == span)
    | _ => glamRepresentable m (fuel + 1) ty

/-- fields arise from members position by position -/
def FieldsFrom (m : Module) (o : Options) : List Member → List RField → Prop
  | [], [] => True
  | mem :: ms, f :: fs => FieldFrom m o mem f ∧ FieldsFrom m o ms fs
  | _, _ => False

theorem fieldsFrom_iff {m : Module} {o : Options} :
    ∀ {l : List Member} {fs : List RField}, FieldsFrom m o l fs ↔ Pairs (FieldFrom m o) l fs
  | [], [] => ⟨fun _ => .nil, fun _ => trivial⟩
  | _ :: _, _ :: _ => ⟨fun h => .cons h.1 (fieldsFrom_iff.mp h.2), fun | .cons hf ht => ⟨hf, fieldsFrom_iff.mpr ht⟩⟩
  | [], _ :: _ => ⟨False.elim, nofun⟩
  | _ :: _, [] => ⟨False.elim, nofun⟩

theorem structMembersFrom_pos {m : Module} {o : Options} {len : Nat} :
    ∀ (l : List Member) (idx : Nat) (fs : List RField),
      structMembersFrom m o len idx l = .ok fs → FieldsFrom m o l fs :=
  fun _ _ _ h => fieldsFrom_iff.mpr (structMembersFrom_ok h).1

theorem structLayout_align (fields : List (Nat × Nat)) :
    (Encase.structLayout fields).2.2 = fields.foldl (fun a f => max a f.1) 1 :=
  (List.foldl_hom (fun acc : List Nat × Nat × Nat => acc.2.2) fun _ _ => rfl).symm

/-- the WGSL alignment of a struct whose members all have a layout, the largest member alignment, is the one `structLayout`
computes from the members' (AlignOf, SizeOf) -/
theorem alignSize_struct {m : Module} {fuel : Nat} {ty : Ty} {ms : List Member} {span : Nat}
    (hi : ty.inner = .struct ms span)
    (hp : ∀ mem ∈ ms, ∃ p, (m.types[mem.ty]?).bind (WgslLayout.alignSize m fuel) = some p) :
    WgslLayout.alignSize m (fuel + 1) ty = some ((Encase.structLayout (memberMetas m fuel ms)).2.2, span) := by
  rw [WgslLayout.alignSize]
  simp only [hi]
  rw [if_pos, structLayout_align]
  · simp only [memberMetas, List.foldl_map]
    congr
    funext a mem
    cases m.types[mem.ty]? with
    | none => rfl
    | some mt =>
      simp only [Option.bind_some]
      cases WgslLayout.alignSize m fuel mt <;> rfl
  · simp only [List.all_eq_true, List.mem_map]
    rintro _ ⟨mem, hmem, rfl⟩
    obtain ⟨p, hp⟩ := hp mem hmem
    obtain ⟨mt, hmt, hp⟩ := Option.bind_eq_some_iff.mp hp
    simp only [hmt, hp]
    rfl

theorem natural_struct {m : Module} {fuel : Nat} {ty : Ty} {ms : List Member} {span : Nat}
    (hi : ty.inner = .struct ms span) (hn : natural m (fuel + 1) ty = true) :
    (∀ mem ∈ ms, ∃ mt, m.types[mem.ty]? = some mt ∧ natural m fuel mt = true) ∧ nonBuiltin ms = ms ∧
    (Encase.structLayout (memberMetas m fuel ms)).1 = ms.map (·.offset) ∧
    (Encase.structLayout (memberMetas m fuel ms)).2.1 = span := by
  unfold natural at hn
  simp only [hi, Bool.and_eq_true, beq_iff_eq, List.all_eq_true] at hn
  obtain ⟨hall, hoff, hspan⟩ := hn
  refine ⟨fun mem hmem => ?_, List.filter_eq_self.mpr fun mem hmem => (hall mem hmem).1, hoff, hspan⟩
  have := (hall mem hmem).2
  cases hmt : m.types[mem.ty]? with
  | none =>
    rw [hmt] at this
    cases this
  | some mt =>
    rw [hmt] at this
    exact ⟨mt, rfl, this⟩

theorem natural_array {m : Module} {fuel : Nat} {ty bt : Ty} {base stride : Nat} {sz : ArraySize}
    (hi : ty.inner = .array base sz stride) (hb : m.types[base]? = some bt) (hn : natural m (fuel + 1) ty = true) :
    natural m fuel bt = true := by
  unfold natural at hn
  cases sz with
  | const n => simpa only [hi, hb] using hn
  | dynamic => simpa only [hi, hb] using hn
  | pending => simp [hi, glamRepresentable] at hn

/-- field by field, encase's metadata of the emitted field type is the WGSL (AlignOf, SizeOf) of the member.  `IH` and `IHd`
are the main statement one and two levels below the struct (a runtime-sized member recurses into its element type), `P` is
what the induction carries along (reachability from the root). -/
theorem fields_meta {rs : List RStruct} {m : Module} {o : Options} {fuel : Nat} (hrepr : o.repr = .glam)
    (P : Nat → Prop)
    (IH : ∀ h ty r, m.types[h]? = some ty → P h → natural m fuel ty = true →
        rustType m .glam (typeFuel m) ty = .ok r → ∃ p, WgslLayout.alignSize m fuel ty = some p ∧ Meta rs r p)
    (IHd : ∀ h base bt e, P h → base ∈ typeSucc m h → m.types[base]? = some bt → natural m (fuel - 1) bt = true →
        rustType m .glam (typeFuel m) bt = .ok e → ∃ p, WgslLayout.alignSize m (fuel - 1) bt = some p ∧ Meta rs e p) :
    ∀ (ms : List Member) (fs : List RField), FieldsFrom m o ms fs →
      (∀ mem ∈ ms, P mem.ty ∧ ∃ mt, m.types[mem.ty]? = some mt ∧ natural m fuel mt = true) →
      fs.length = ms.length ∧
      (∀ mem ∈ ms, ∃ p, (m.types[mem.ty]?).bind (WgslLayout.alignSize m fuel) = some p) ∧
      (∀ i (h1 : i < fs.length) (h2 : i < (memberMetas m fuel ms).length),
        Meta rs fs[i].ty (memberMetas m fuel ms)[i]) := by
  intro ms fs hf hms
  have hp := fieldsFrom_iff.mp hf
  have one : ∀ mem ∈ ms, ∀ f, FieldFrom m o mem f →
      ∃ p, (m.types[mem.ty]?).bind (WgslLayout.alignSize m fuel) = some p ∧ Meta rs f.ty p := by
    intro mem hmem f hff
    obtain ⟨hP, mt, hmt, hnat⟩ := hms mem hmem
    obtain ⟨ty, hty, _, hcase⟩ := hff
    rw [hmt] at hty
    cases hty
    rw [hmt, Option.bind_some]
    rw [hrepr] at hcase
    rcases hcase with ⟨base, stride, bt, e, hi, hbt, hre, hfty, _⟩ | ⟨_, hrt, _⟩
    · -- a runtime-sized last member becomes `Vec<element>`, whose metadata is that of one element
      cases fuel with
      | zero => cases hnat
      | succ k =>
        obtain ⟨⟨a, sz⟩, (hpa : WgslLayout.alignSize m k bt = some (a, sz)), hpm⟩ :=
          IHd mem.ty base bt e hP (base_typeSucc hmt hi) hbt (natural_array hi hbt hnat) hre
        refine ⟨(a, roundUp a sz), ?_, hfty ▸ Meta.vec hpm⟩
        rw [WgslLayout.alignSize_dynArray hi hbt, hpa]
        rfl
    · exact IH mem.ty mt f.ty hmt hP hnat hrt
  refine ⟨hp.length_eq, fun mem hmem => ?_, fun i h1 h2 => ?_⟩
  · obtain ⟨f, _, hff⟩ := hp.mem_left mem hmem
    obtain ⟨p, hb, _⟩ := one mem hmem f hff
    exact ⟨p, hb⟩
  · have h2' : i < ms.length := by simpa [memberMetas] using h2
    obtain ⟨p, hb, hm⟩ := one ms[i] (List.getElem_mem h2') fs[i] (hp.getElem i h2' h1)
    simpa only [memberMetas, List.getElem_map, hb, Option.getD_some] using hm

/-- the struct step, from the emission hypothesis `hem` and the main statement below the struct's fuel: the struct is
emitted with fields that have the members' WGSL (AlignOf, SizeOf), so encase's metadata of the struct is the WGSL one -/
theorem struct_meta {m : Module} {o : Options} {rs : List RStruct} {root : Nat} (hrepr : o.repr = .glam)
    (hem : ∀ h ty ms sp n, m.types[h]? = some ty → ty.inner = .struct ms sp → ty.name = some n → TyReach m root h →
      ∃ s, RustStatic.findStruct rs n = some s ∧ structMembers m o (nonBuiltin ms) = .ok s.fields)
    {fuel : Nat}
    (IH : ∀ k, k ≤ fuel → ∀ h ty r, m.types[h]? = some ty → TyReach m root h → natural m k ty = true →
      rustType m .glam (typeFuel m) ty = .ok r → ∃ p, WgslLayout.alignSize m k ty = some p ∧ Meta rs r p)
    {h : Nat} {ty : Ty} {ms : List Member} {span : Nat} {n : String}
    (hty : m.types[h]? = some ty) (hi : ty.inner = .struct ms span) (hn : ty.name = some n)
    (hreach : TyReach m root h) (hnat : natural m (fuel + 1) ty = true) :
    ∃ s, RustStatic.findStruct rs n = some s ∧ Pairs (FieldFrom m o) ms s.fields ∧
      (∀ i (h1 : i < s.fields.length) (h2 : i < (memberMetas m fuel ms).length),
        Meta rs s.fields[i].ty (memberMetas m fuel ms)[i]) ∧
      WgslLayout.alignSize m (fuel + 1) ty = some ((Encase.structLayout (memberMetas m fuel ms)).2.2, span) ∧
      Meta rs (.named n) ((Encase.structLayout (memberMetas m fuel ms)).2.2, span) := by
  obtain ⟨hall, hnb, _, hspan⟩ := natural_struct hi hnat
  obtain ⟨s, hfind, hfields⟩ := hem h ty ms span n hty hi hn hreach
  rw [hnb] at hfields
  have hfs := (structMembers_ok hfields).1
  have hsucc : ∀ mem ∈ ms, TyReach m root mem.ty := fun mem hmem =>
    tyReach_snoc hreach (member_typeSucc hty hi hmem)
  obtain ⟨hlen, hp, hmeta⟩ := fields_meta hrepr (TyReach m root) (IH fuel (Nat.le_refl _))
    (fun h' base bt e hr' hs' hb' hn' he' => IH (fuel - 1) (Nat.sub_le _ _) base bt e hb' (tyReach_snoc hr' hs') hn' he')
    ms s.fields (fieldsFrom_iff.mpr hfs) fun mem hmem => ⟨hsucc mem hmem, hall mem hmem⟩
  have hnamed := Meta.named (rs := rs) hfind (by simp [memberMetas, hlen]) hmeta
  rw [hspan] at hnamed
  exact ⟨s, hfind, hfs, hmeta, alignSize_struct hi hp, hnamed⟩

/-- **Main induction.**  `hem`: every struct type reachable from `root` is emitted under its name, with the fields
`struct_members` makes of its (non-builtin) members. -/
theorem meta_of_natural {m : Module} {o : Options} {rs : List RStruct} {root : Nat} (hrepr : o.repr = .glam)
    (hem : ∀ h ty ms sp n, m.types[h]? = some ty → ty.inner = .struct ms sp → ty.name = some n → TyReach m root h →
      ∃ s, RustStatic.findStruct rs n = some s ∧ structMembers m o (nonBuiltin ms) = .ok s.fields) :
    ∀ fuel h ty fr r, m.types[h]? = some ty → TyReach m root h → natural m fuel ty = true →
      rustType m .glam fr ty = .ok r → ∃ p, WgslLayout.alignSize m fuel ty = some p ∧ Meta rs r p := by
  intro fuel
  induction fuel using Nat.strongRecOn with
  | _ fuel ih =>
  cases fuel with
  | zero => intro h ty fr r _ _ hn; cases hn
  | succ fuel =>
    intro h ty fr r hty hreach hn hr
    cases rustType_ok hr with
    | array hi hb he =>
      obtain ⟨⟨a, sz⟩, hpa, hpm⟩ := ih fuel (Nat.lt_succ_self _) _ _ _ _ hb
        (tyReach_snoc hreach (base_typeSucc hty hi)) (natural_array hi hb hn) he
      refine ⟨_, ?_, Meta.array hpm⟩
      rw [WgslLayout.alignSize_array hi hb, hpa]
      rfl
    | struct hi hnm =>
      obtain ⟨_, _, _, _, hp, hm⟩ := struct_meta hrepr hem
        (fun k hk h' ty' r' => ih k (Nat.lt_succ_of_le hk) h' ty' (typeFuel m) r') hty hi hnm hreach hn
      exact ⟨_, hp, hm⟩
    | scalar hi | atomic hi | vector hi | matrix hi =>
      obtain ⟨p, hp, hl, hal⟩ := leaf_meta m (fun _ => none) (by simpa [natural, hi] using hn) (by simp [hi]) hr
      exact ⟨p, hp, Meta.leaf hl hal⟩

/-- every struct type reachable from a variable's type is emitted under its name, with the fields `struct_members`
makes of its non-builtin members -/
theorem emitted_of_gen {m : Module} {o : Options} {src : String} {path : Option String} {out : Out}
    (ha : TypeArenaOk m) (hg : gen m o src path = .ok out) {g : Global} (hgm : g ∈ m.globals) :
    ∀ h ty ms sp n, m.types[h]? = some ty → ty.inner = .struct ms sp → ty.name = some n → TyReach m g.ty h →
      ∃ s, RustStatic.findStruct out.structs n = some s ∧ structMembers m o (nonBuiltin ms) = .ok s.fields := by
  intro h ty ms sp n hty hi hn hreach
  have hgv : h ∈ globalVariableTypes m :=
    (globalVariableTypes_mem m ha.earlier ha.globalsInRange h).mpr ⟨g, hgm, hreach⟩
  obtain ⟨s, hfind, hs⟩ := findStruct_wanted ha hg hty hi hn (structWanted_of_contains (List.contains_iff_mem.mpr hgv))
  exact ⟨s, hfind, (rustStruct_fields hs)⟩

/-- **C10** (nested structs).  With the glam representation, for a variable `g` and a struct type `h` reachable from its
type that is in the `natural` domain: the struct is emitted, and for the emitted item `s`
* field by field, encase's (alignment, size) of the field's Rust type is the WGSL (AlignOf, SizeOf) of the member
  (`memberMetas`), at every nesting depth (nested struct items are looked up in the emitted output);
* the offsets encase's derive assigns are the recorded WGSL member offsets and the size it assigns is the recorded span;
* encase's (alignment, size) of the struct itself is the WGSL one. -/
theorem C10_struct {m : Module} {o : Options} {src : String} {path : Option String} {out : Out}
    (ha : TypeArenaOk m) (hg : gen m o src path = .ok out) (hrepr : o.repr = .glam)
    {g : Global} (hgm : g ∈ m.globals) {h : Nat} {ty : Ty} {ms : List Member} {span : Nat} {n : String}
    (hreach : TyReach m g.ty h) (hty : m.types[h]? = some ty) (hi : ty.inner = .struct ms span) (hn : ty.name = some n)
    {fuel : Nat} (hnat : natural m (fuel + 1) ty = true) :
    ∃ s, RustStatic.findStruct out.structs n = some s ∧ s.fields.length = ms.length ∧
      (∀ i (h1 : i < s.fields.length) (h2 : i < (memberMetas m fuel ms).length),
        Meta out.structs s.fields[i].ty (memberMetas m fuel ms)[i]) ∧
      (Encase.structLayout (memberMetas m fuel ms)).1 = ms.map (·.offset) ∧
      (Encase.structLayout (memberMetas m fuel ms)).2.1 = span ∧
      ∃ p, WgslLayout.alignSize m (fuel + 1) ty = some p ∧ Meta out.structs (.named n) p := by
  have hem := emitted_of_gen ha hg hgm
  obtain ⟨s, hfind, hfs, hmeta, hp, hm⟩ := struct_meta hrepr hem
    (fun k _ h' ty' r' => meta_of_natural hrepr hem k h' ty' (typeFuel m) r') hty hi hn hreach hnat
  obtain ⟨_, _, hoff, hspan⟩ := natural_struct hi hnat
  exact ⟨s, hfind, hfs.length_eq, hmeta, hoff, hspan, _, hp, hm⟩

/-! ### The executable form (`Encase.structMeta`, evaluated by the correspondence check on real output) agrees -/

/-- the clauses of `alignSizeOf` for leaves do not consult the struct lookup: with the match unfolded, both sides are the
same chain of string tests -/
theorem alignSizeOf_leaf (sm sm' : String → Option (Nat × Nat)) {r : RustTy} (hl : isLeaf r = true) :
    Encase.alignSizeOf sm r = Encase.alignSizeOf sm' r := by
  unfold Encase.alignSizeOf Encase.alignSizeOf.match_1
  cases r
  case prim | glam => rfl
  all_goals cases hl

theorem alignSizeOf_sound (rs : List RStruct) (sm : String → Option (Nat × Nat))
    (hsm : ∀ n p, sm n = some p → Meta rs (.named n) p) :
    ∀ r p, Encase.alignSizeOf sm r = some p → Meta rs r p := by
  intro r p h
  induction r generalizing p with
  | prim s | glam s => exact Meta.leaf rfl ((alignSizeOf_leaf _ sm rfl).trans h)
  | array t n ih =>
    rw [Encase.alignSizeOf, Option.map_eq_some_iff] at h
    obtain ⟨q, hq, rfl⟩ := h
    exact Meta.array (ih q hq)
  | vec t ih =>
    rw [Encase.alignSizeOf, Option.map_eq_some_iff] at h
    obtain ⟨q, hq, rfl⟩ := h
    exact Meta.vec (ih q hq)
  | named n => exact hsm n p h
  | nalgebraV | nalgebraM | option | unknown => cases h

/-- when the evaluator answers for every field of an item, its answers are derivable -/
theorem fields_sound (rs : List RStruct) (sm : String → Option (Nat × Nat))
    (hsm : ∀ n p, sm n = some p → Meta rs (.named n) p) (fs : List RField)
    (hall : (fs.map fun f => Encase.alignSizeOf sm f.ty).all (·.isSome) = true) :
    ∀ i (h1 : i < fs.length)
      (h2 : i < ((fs.map fun f => Encase.alignSizeOf sm f.ty).map fun x => x.getD (1, 0)).length),
      Meta rs fs[i].ty ((fs.map fun f => Encase.alignSizeOf sm f.ty).map fun x => x.getD (1, 0))[i] := by
  intro i h1 h2
  have hsome := List.all_eq_true.mp hall _ (List.mem_map_of_mem (List.getElem_mem h1))
  obtain ⟨q, hq⟩ := Option.isSome_iff_exists.mp hsome
  simp only [List.getElem_map, hq, Option.getD_some]
  exact alignSizeOf_sound rs sm hsm _ _ hq

/-- whatever the fuel-bounded evaluator answers is derivable in the relation -/
theorem structMeta_sound (rs : List RStruct) :
    ∀ F n p, Encase.structMeta rs F n = some p → Meta rs (.named n) p := by
  intro F
  induction F with
  | zero => intro n p h; cases h
  | succ F ih =>
    intro n p h
    unfold Encase.structMeta at h
    split at h
    · cases h
    · rename_i s hfind
      simp only at h
      split at h
      · rename_i hall
        cases h
        exact Meta.named hfind (by simp) (fields_sound rs _ ih s.fields hall)
      · cases h

theorem Meta.det {rs : List RStruct} {r : RustTy} {p q : Nat × Nat} (h1 : Meta rs r p) (h2 : Meta rs r q) : p = q := by
  induction h1 generalizing q with
  | leaf hl ha =>
    cases h2 with
    | leaf _ ha' => exact Option.some.inj (ha.symm.trans ha')
    | array | vec | named => cases hl
  | array _ ih =>
    cases h2 with
    | leaf hl _ => cases hl
    | array h' =>
      cases ih h'
      rfl
  | vec _ ih =>
    cases h2 with
    | leaf hl _ => cases hl
    | vec h' =>
      cases ih h'
      rfl
  | @named _ _ metas hf hl _ ih =>
    cases h2 with
    | leaf hl' _ => cases hl'
    | @named _ _ metas' hf' hl' hm' =>
      cases hf.symm.trans hf'
      have : metas = metas' :=
        List.ext_getElem (hl.trans hl'.symm) fun i h1 h2 => ih i (hl ▸ h1) h1 (hm' i (hl ▸ h1) h2)
      rw [this]

/-- **C10** (nested structs, executable form): under the hypotheses of `C10_struct`, whenever the evaluator the
correspondence check runs on the REAL emitted structs answers for the struct, it answers the WGSL (AlignOf, SizeOf). -/
theorem C10_struct_exec {m : Module} {o : Options} {src : String} {path : Option String} {out : Out}
    (ha : TypeArenaOk m) (hg : gen m o src path = .ok out) (hrepr : o.repr = .glam)
    {g : Global} (hgm : g ∈ m.globals) {h : Nat} {ty : Ty} {ms : List Member} {span : Nat} {n : String}
    (hreach : TyReach m g.ty h) (hty : m.types[h]? = some ty) (hi : ty.inner = .struct ms span) (hn : ty.name = some n)
    {fuel : Nat} (hnat : natural m (fuel + 1) ty = true)
    {F : Nat} {p : Nat × Nat} (hex : Encase.structMeta out.structs F n = some p) :
    WgslLayout.alignSize m (fuel + 1) ty = some p := by
  obtain ⟨_, _, _, _, _, _, p', hp', hm'⟩ := C10_struct ha hg hrepr hgm hreach hty hi hn hnat
  rw [hp', Meta.det hm' (structMeta_sound _ F n p hex)]

/-- ... and the offsets / size it computes from the fields of the real item are the recorded WGSL ones -/
theorem C10_struct_exec_offsets {m : Module} {o : Options} {src : String} {path : Option String} {out : Out}
    (ha : TypeArenaOk m) (hg : gen m o src path = .ok out) (hrepr : o.repr = .glam)
    {g : Global} (hgm : g ∈ m.globals) {h : Nat} {ty : Ty} {ms : List Member} {span : Nat} {n : String}
    (hreach : TyReach m g.ty h) (hty : m.types[h]? = some ty) (hi : ty.inner = .struct ms span) (hn : ty.name = some n)
    {fuel : Nat} (hnat : natural m (fuel + 1) ty = true) {F : Nat} :
    ∃ s, RustStatic.findStruct out.structs n = some s ∧
      ((s.fields.map fun f => Encase.alignSizeOf (Encase.structMeta out.structs F) f.ty).all (·.isSome) = true →
        let l := Encase.structLayout
          ((s.fields.map fun f => Encase.alignSizeOf (Encase.structMeta out.structs F) f.ty).map fun x => x.getD (1, 0))
        l.1 = ms.map (·.offset) ∧ l.2.1 = span) := by
  obtain ⟨s, hfind, hlen, hmeta, hoff, hspan, _⟩ := C10_struct ha hg hrepr hgm hreach hty hi hn hnat
  refine ⟨s, hfind, fun hall => ?_⟩
  -- the evaluator's answers are derivable, so they are the members' WGSL (AlignOf, SizeOf)
  have heq : ((s.fields.map fun f => Encase.alignSizeOf (Encase.structMeta out.structs F) f.ty).map fun x => x.getD (1, 0))
      = memberMetas m fuel ms := by
    apply List.ext_getElem (by simp [memberMetas, hlen])
    intro i h1 h2
    have h1' : i < s.fields.length := by simpa using h1
    exact Meta.det (fields_sound _ _ (structMeta_sound _ F) s.fields hall i h1' h1) (hmeta i h1' h2)
  simp only [heq]
  exact ⟨hoff, hspan⟩

/-! ### Trailing runtime-sized arrays -/

/-- **C10** (trailing runtime-sized array).  Under the hypotheses of `C10_struct`, when the last member of the struct is a
runtime-sized array: the last field of the emitted item is `Vec<e>` carrying `#[size(runtime)]`; encase's (alignment, size) of
the element type `e` is the WGSL (AlignOf, SizeOf) of the array's element type, so the element strides agree; the field sits
at the member's WGSL offset (`C10_struct`).  So alignment `A`, offset and stride are the same numbers on both sides, and
with them the byte length encase writes for `k` elements (`Encase.runtimeLen`) is the WGSL size of the struct with `k`
elements (`WgslLayout.runtimeStructSize`): the two are the same formula, the last conjunct holds by definition. -/
theorem C10_runtime {m : Module} {o : Options} {src : String} {path : Option String} {out : Out}
    (ha : TypeArenaOk m) (hg : gen m o src path = .ok out) (hrepr : o.repr = .glam)
    {g : Global} (hgm : g ∈ m.globals) {h : Nat} {ty : Ty} {ms : List Member} {span : Nat} {n : String}
    (hreach : TyReach m g.ty h) (hty : m.types[h]? = some ty) (hi : ty.inner = .struct ms span) (hn : ty.name = some n)
    {fuel : Nat} (hnat : natural m (fuel + 1) ty = true)
    {lm : Member} {lt : Ty} {base stride : Nat}
    (hlast : ms.getLast? = some lm) (hlt : m.types[lm.ty]? = some lt) (hli : lt.inner = .array base .dynamic stride) :
    ∃ s f e a sz, RustStatic.findStruct out.structs n = some s ∧ s.fields.getLast? = some f ∧
      f.ty = .vec e ∧ f.runtime = true ∧ Meta out.structs e (a, sz) ∧
      (m.types[base]?).bind (WgslLayout.alignSize m (fuel - 1)) = some (a, sz) ∧
      ∃ A, WgslLayout.alignSize m (fuel + 1) ty = some (A, span) ∧ Meta out.structs (.named n) (A, span) ∧
        ∀ k, Encase.runtimeLen A lm.offset (roundUp a sz) k = WgslLayout.runtimeStructSize A lm.offset (roundUp a sz) k := by
  have hem := emitted_of_gen ha hg hgm
  have main := meta_of_natural hrepr hem
  obtain ⟨s, hfind, hfs, _, hA, hAm⟩ := struct_meta hrepr hem
    (fun k _ h' ty' r' => main k h' ty' (typeFuel m) r') hty hi hn hreach hnat
  obtain ⟨f, hfl, ty', hty', _, hcase⟩ := hfs.getLast? hlast
  have hlm : lm ∈ ms := List.mem_of_getLast? hlast
  obtain ⟨mt, hmt, hlnat⟩ := (natural_struct hi hnat).1 lm hlm
  rw [hlt] at hty' hmt
  cases hty'
  cases hmt
  rcases hcase with ⟨base', stride', bt, e, hi', hbt, hre, hfty, hrt⟩ | ⟨hnd, _, _⟩
  · rw [hli] at hi'
    cases hi'
    rw [hrepr] at hre
    cases fuel with
    | zero => cases hlnat
    | succ k =>
      obtain ⟨⟨a, sz⟩, hea, hem'⟩ := main k base bt (typeFuel m) e hbt
        (tyReach_snoc (tyReach_snoc hreach (member_typeSucc hty hi hlm)) (base_typeSucc hlt hli)) (natural_array hli hbt hlnat) hre
      exact ⟨s, f, e, a, sz, hfind, hfl, hfty, hrt, hem', by rw [hbt]; exact hea, _, hA, hAm, fun k => rfl⟩
  · exact absurd hli (hnd base stride)

/-! ## Non-vacuity -/

namespace Example

def ty (name : Option String) (inner : TypeInner) : Ty :=
  { name := name, inner := inner, size := 0, laySize := 0, layAlign := 0, snake := "" }

/-- ```wgsl
struct Inner { a: vec3<f32>, b: f32 }                                  // 0, 12          size 16
struct Mid   { x: f32, inner: Inner, arr: array<Inner, 2> }            // 0, 16, 32      size 64
struct Outer { m: mat3x3<f32>, v: vec2<u32>, mid: Mid, k: array<vec3<f32>, 2> }   // 0, 48, 64, 128  size 160
@group(0) @binding(0) var<storage> o: Outer;
``` -/
def outerTy (vOffset : Nat) : Ty :=
  ty (some "Outer") (.struct [⟨some "m", 5, none, 0⟩, ⟨some "v", 6, none, vOffset⟩, ⟨some "mid", 4, none, 64⟩, ⟨some "k", 7, none, 128⟩] 160)

def modl (vOffset : Nat) : Module :=
  { types :=
      [ ty none (.scalar ⟨.float, 4⟩),                                                          -- 0
        ty none (.vector .tri ⟨.float, 4⟩),                                                     -- 1
        ty (some "Inner") (.struct [⟨some "a", 1, none, 0⟩, ⟨some "b", 0, none, 12⟩] 16),       -- 2
        ty none (.array 2 (.const 2) 16),                                                        -- 3
        ty (some "Mid") (.struct [⟨some "x", 0, none, 0⟩, ⟨some "inner", 2, none, 16⟩, ⟨some "arr", 3, none, 32⟩] 64),  -- 4
        ty none (.matrix .tri .tri ⟨.float, 4⟩),                                                -- 5
        ty none (.vector .bi ⟨.uint, 4⟩),                                                       -- 6
        ty none (.array 1 (.const 2) 16),                                                        -- 7
        outerTy vOffset ],                                                                       -- 8
    globals := [], consts := [], overrides := [], functions := [], entries := [] }

/-- the three nested structs are in the domain ... -/
example : natural (modl 48) 10 (outerTy 48) = true := by decide
/-- ... and `@align(16) v` (which moves `v` to 64 in a real module; here only the recorded offset differs) is not -/
example : natural (modl 56) 10 (outerTy 56) = false := by decide

/-- the items the generator emits for it under glam -/
def emitted : List RStruct :=
  [ { name := "Inner", reprC := true, derives := [], asserts := [],
      fields := [⟨"a", .glam "Vec3", false⟩, ⟨"b", .prim "f32", false⟩] },
    { name := "Mid", reprC := true, derives := [], asserts := [],
      fields := [⟨"x", .prim "f32", false⟩, ⟨"inner", .named "Inner", false⟩, ⟨"arr", .array (.named "Inner") 2, false⟩] },
    { name := "Outer", reprC := true, derives := [], asserts := [],
      fields := [⟨"m", .glam "Mat3", false⟩, ⟨"v", .glam "UVec2", false⟩, ⟨"mid", .named "Mid", false⟩,
                 ⟨"k", .array (.glam "Vec3") 2, false⟩] } ]

example : structMembers (modl 48) { (default : Options) with repr := .glam }
    [⟨some "x", 0, none, 0⟩, ⟨some "inner", 2, none, 16⟩, ⟨some "arr", 3, none, 32⟩] =
    .ok [⟨"x", .prim "f32", false⟩, ⟨"inner", .named "Inner", false⟩, ⟨"arr", .array (.named "Inner") 2, false⟩] := by rfl

/-- encase's evaluator on those items: alignment 16, size 160 = WGSL -/
example : Encase.structMeta emitted 4 "Outer" = some (16, 160) := by decide
example : WgslLayout.alignSize (modl 48) 10 (outerTy 48) = some (16, 160) := by decide
example : Encase.structMeta emitted 4 "Mid" = some (16, 64) := by decide
/-- too little fuel for the nesting depth: no answer (the theorem speaks about answers only) -/
example : Encase.structMeta emitted 2 "Outer" = none := by decide

/-- ```wgsl
struct Buf { count: u32, items: array<Inner> }     // 0, 16; with one element 32 bytes
@group(0) @binding(1) var<storage> b: Buf;
``` -/
def bufTy : Ty := ty (some "Buf") (.struct [⟨some "count", 10, none, 0⟩, ⟨some "items", 9, none, 16⟩] 32)

def modlRt : Module :=
  { (modl 48) with types := (modl 48).types ++
      [ ty none (.array 2 .dynamic 16),            -- 9
        ty none (.scalar ⟨.uint, 4⟩),              -- 10
        bufTy ] }                                   -- 11

example : natural modlRt 10 bufTy = true := by decide
example : WgslLayout.alignSize modlRt 10 bufTy = some (16, 32) := by decide

def emittedRt : List RStruct :=
  emitted ++ [ { name := "Buf", reprC := false, derives := [], asserts := [],
                 fields := [⟨"count", .prim "u32", false⟩, ⟨"items", .vec (.named "Inner"), true⟩] } ]

example : structMembers modlRt { (default : Options) with repr := .glam }
    [⟨some "count", 10, none, 0⟩, ⟨some "items", 9, none, 16⟩] =
    .ok [⟨"count", .prim "u32", false⟩, ⟨"items", .vec (.named "Inner"), true⟩] := by rfl

example : Encase.structMeta emittedRt 3 "Buf" = some (16, 32) := by decide
/-- 0 and 1 elements: 32 bytes; 3 elements: 64 -/
example : [0, 1, 3].map (Encase.runtimeLen 16 16 16) = [32, 32, 64] := by decide

end Example

end C10S
end WgslVerif
