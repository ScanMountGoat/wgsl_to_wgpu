import WgslVerif.Lemmas.StagesEntry
/-
C20 – Generation cost stays polynomial in shader size and call depth (stage traversal part;
the type-closure part is `typeVisits_bound` in Lemmas/TypeClosure.lean).

The model's traversal counts its own steps (`fnVisits` = invocations of `update_stages`,
`stmtVisits` = statements visited by `update_stages_blocks`); the cfg-guarded hooks in /repo
count the same events in the real code and the correspondence check demands equality.
Partial: wall-clock is runtime behaviour; the theorem bounds the number of steps.
-/
namespace WgslVerif

/-- largest number of statements in the body of an entry function -/
def maxEntryTicks (m : Module) : Nat :=
  (m.entries.map fun e => ticksOf (evFn m e.fn)).foldr max 0

/-- **C20** (function visits): `update_stages` runs at most once per entry point and reachable
function – linear in entries × functions, whatever the depth or shape of the call graph. -/
theorem C20_stage_fn_visits (m : Module) (hv : CallsEarlier m) :
    (globalShaderStagesSt m).fnVisits ≤ m.entries.length * (1 + m.functions.length) := by
  have := (entries_fold_spec m hv m.entries (fun _ h => h)
    { stages := [], visited := [], fnVisits := 0, stmtVisits := 0 }).2.2
  simpa [globalShaderStagesSt] using this

/-- **C20** (statement visits): the number of statements walked is bounded by
entries × (largest entry body + largest function body × functions). -/
theorem C20_stage_stmt_visits (m : Module) (hv : CallsEarlier m) :
    (globalShaderStagesSt m).stmtVisits ≤
      m.entries.length * (maxEntryTicks m + maxTicks m * m.functions.length) := by
  have := foldl_le_length_mul (entryStep m) (·.stmtVisits)
    (maxEntryTicks m + maxTicks m * m.functions.length) m.entries (fun e he st => by
      obtain ⟨new, _, d, _, _, _, t⟩ := entryStep_spec m hv e he st
      have hnew : new.length ≤ m.functions.length := d.length_le hv.arena (hv.entry e he)
      have hown : ticksOf (evFn m e.fn) ≤ maxEntryTicks m := le_foldr_max (fun e => ticksOf (evFn m e.fn)) he
      have hsum : (new.map (ticksH m)).sum ≤ maxTicks m * m.functions.length :=
        Nat.le_trans (sum_map_le (ticksH m) (maxTicks m) fun x _ => ticksH_le_max m x) (Nat.mul_le_mul_left _ hnew)
      omega)
    { stages := [], visited := [], fnVisits := 0, stmtVisits := 0 }
  simpa [globalShaderStagesSt] using this

/-! ### The un-memoised traversal (the finding this property was written for)

`Legacy.visits` follows every call site (a value-returning call is both a `Call` statement
and a `CallResult` expression, hence two edges), as `update_stages` does in /repo before the
visited set of the repair. On a chain of value-returning calls it makes `2^(n+1) - 1` invocations. -/
namespace Legacy

def visits (succ : Nat → List Nat) : Nat → Nat → Nat
  | 0, _ => 1
  | fuel + 1, n => 1 + ((succ n).map (visits succ fuel)).sum

/-- function `n+1` calls function `n` through a call statement and reads its call result -/
def chainFn : Nat → Fn
  | 0 => { name := none, args := [], result := none, body := [], exprs := [.global 0] }
  | n + 1 => { name := none, args := [], result := none, body := [.call n true],
               exprs := [.callResult n] }

def chainModule (n : Nat) : Module :=
  { types := [], globals := [], consts := [], overrides := [],
    functions := (List.range (n + 1)).map chainFn, entries := [] }

theorem succOf_chain (n h : Nat) (hh : h ≤ n) :
    succOf (chainModule n) h = match h with | 0 => [] | k + 1 => [k, k] := by
  have : (chainModule n).functions[h]? = some (chainFn h) := by
    simp only [chainModule, List.getElem?_map, List.getElem?_range (Nat.lt_succ_of_le hh)]; rfl
  rw [succOf_some this]
  cases h <;> rfl

theorem chain_blowup (n : Nat) : ∀ h fuel, h ≤ n → h ≤ fuel →
    visits (succOf (chainModule n)) fuel h + 1 = 2 ^ (h + 1) := by
  intro h
  induction h with
  | zero =>
    intro fuel hn _
    cases fuel with
    | zero => simp [visits]
    | succ f => simp [visits, succOf_chain n 0 hn]
  | succ k ih =>
    intro fuel hn hf
    cases fuel with
    | zero => omega
    | succ f =>
      have := ih f (by omega) (by omega)
      simp only [visits, succOf_chain n (k + 1) hn, List.map_cons, List.map_nil, List.sum_cons,
        List.sum_nil]
      rw [Nat.pow_succ]; omega

private def chainEntryFn : Fn :=
  { name := none, args := [], result := none, body := [.call 20 true], exprs := [.callResult 20] }
private def chainEntry : EntryPoint :=
  { name := "main", upper := "MAIN", stage := .compute, wg := (1, 1, 1), fn := chainEntryFn }

/-- The memoised traversal on the same chain: `n + 1` invocations plus the entry's own. -/
example : (globalShaderStagesSt { chainModule 20 with entries := [chainEntry] }).fnVisits = 22 := by
  decide +kernel

end Legacy
end WgslVerif
