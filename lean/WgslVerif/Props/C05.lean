import WgslVerif.Lemmas.Gen
import WgslVerif.Ext.WgslLayout
/-
C05 – Bytemuck layout checks make a compiling struct match the WGSL layout.

The WGSL offsets / size are the numbers naga's front end recorded (`member.offset`, the
`Layouter` size); that these are the WGSL memory-layout rules is hypothesis `layoutOK`
(`Ext.WgslLayout`), evaluated on every dumped module.
-/
namespace WgslVerif

/-- the compile-time checks the property prescribes for a struct: its size, and the offset of
every (non-builtin) member, with the WGSL numbers -/
def expectedAsserts (name : String) (t : Ty) (members : List Member) : List RAssert :=
  RAssert.size name t.laySize ("size of " ++ name ++ " does not match WGSL") ::
  (members.filter fun mem => !isBuiltinMember mem).filterMap fun mem =>
    mem.name.map fun n => RAssert.offset name n mem.offset ("offset of " ++ name ++ "." ++ n ++ " does not match WGSL")

/-- any assignment of sizes and field offsets to Rust structs (what rustc decides) -/
structure RustLayout where
  size : String → Nat
  offset : String → String → Nat

/-- the assertion holds under layout `L`, i.e. `const _: () = assert!(...)` compiles -/
def RustLayout.satisfies (L : RustLayout) : RAssert → Prop
  | .size s n _ => L.size s = n
  | .offset s f n _ => L.offset s f = n

theorem offsetAsserts_eq {name : String} {members : List Member} {offs : List RAssert}
    (ho : members.mapM (fun mem => do
        let n ← unwrapName "member-name" mem.name
        pure (RAssert.offset name n mem.offset ("offset of " ++ name ++ "." ++ n ++ " does not match WGSL")))
        = .ok offs) :
    offs = members.filterMap fun mem =>
      mem.name.map fun n => RAssert.offset name n mem.offset ("offset of " ++ name ++ "." ++ n ++ " does not match WGSL") := by
  have := mapM_ok_map_eq (p := some) (q := fun mem => mem.name.map fun n =>
      RAssert.offset name n mem.offset ("offset of " ++ name ++ "." ++ n ++ " does not match WGSL")) ho
    fun mem _ a ha => by
      obtain ⟨n, hn, ha⟩ := Except.bind_ok ha
      cases ha
      rw [unwrapName_ok.mp hn]
      rfl
  simpa [List.filterMap_map] using congrArg (List.filterMap id) this

/-- **C05** (complete): with bytemuck host-shareable derives on, a host-shareable struct carries
exactly the size check and one offset check per emitted field, with naga's WGSL numbers; every
other struct carries none. -/
theorem C05_complete {m : Module} {o : Options} {gvt : List Nat} {h : Nat} {t : Ty}
    {all : List Member} {s : RStruct} (hs : rustStruct m o gvt h t all = .ok s) :
    s.asserts = if o.bmHost && gvt.contains h then expectedAsserts s.name t all else [] := by
  obtain ⟨name, fields, offs, _, _, ho, _, _, _, e⟩ := rustStruct_ok hs
  subst e
  simp only
  split
  · unfold expectedAsserts
    rw [offsetAsserts_eq ho]
  · rfl

/-- **C05** (sound): whatever layout rustc gives the struct, if all emitted checks pass then its
size and every checked field offset are exactly the WGSL ones. -/
theorem C05_sound (L : RustLayout) (name : String) (t : Ty) (members : List Member)
    (hL : ∀ a ∈ expectedAsserts name t members, L.satisfies a) :
    L.size name = t.laySize ∧
    ∀ mem ∈ members, isBuiltinMember mem = false → ∀ n, mem.name = some n → L.offset name n = mem.offset := by
  have hsz : L.satisfies (RAssert.size name t.laySize ("size of " ++ name ++ " does not match WGSL")) :=
    hL _ (by unfold expectedAsserts; exact List.mem_cons_self)
  refine ⟨hsz, fun mem hm hb n hn => ?_⟩
  have : RAssert.offset name n mem.offset ("offset of " ++ name ++ "." ++ n ++ " does not match WGSL")
      ∈ expectedAsserts name t members := by
    unfold expectedAsserts
    apply List.mem_cons_of_mem
    apply List.mem_filterMap.mpr
    exact ⟨mem, List.mem_filter.mpr ⟨hm, by simp [hb]⟩, by simp [hn]⟩
  exact hL _ this

/-- the checks one emitted struct must carry -/
def StructAssertsOk (m : Module) (o : Options) (s : RStruct) : Prop :=
  match (indexed m.types).find? (fun ht => structNameOf ht == some s.name) with
  | some (h, t) =>
    match t.inner with
    | .struct members _ =>
      s.asserts = if o.bmHost && (globalVariableTypes m).contains h then expectedAsserts s.name t members else []
    | _ => False
  | none => False

instance (m : Module) (o : Options) (s : RStruct) : Decidable (StructAssertsOk m o s) := by
  unfold StructAssertsOk
  split
  · split <;> infer_instance
  · infer_instance

/-- the per-output predicate evaluated on real outputs -/
def C05Ok (m : Module) (o : Options) (out : Out) : Prop := ∀ s ∈ out.structs, StructAssertsOk m o s

instance (m : Module) (o : Options) (out : Out) : Decidable (C05Ok m o out) := by
  unfold C05Ok; infer_instance

/-- **C05**: in every successful generation each struct carries exactly the size and offset checks the property
prescribes for it (`C05_complete` per struct; `C05_sound` says what passing checks imply). -/
theorem C05 {m : Module} {o : Options} {src : String} {path : Option String} {out : Out}
    (hn : ((indexed m.types).filterMap structNameOf).Nodup)
    (hg : gen m o src path = .ok out) : C05Ok m o out := by
  intro s hs
  obtain ⟨hd, ty, ms, sp, hfind, hi, hr⟩ := structs_find (gen_ok hg).structs hn hs
  unfold StructAssertsOk
  simp only [hfind, hi]
  exact C05_complete hr

end WgslVerif
