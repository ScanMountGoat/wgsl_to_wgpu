import WgslVerif.Props.C07
import WgslVerif.Ext.ReprC
/-
C07, last clause: "these layouts satisfy wgpu's vertex-buffer … validation".

`C07_buffer`: for every generated `impl S { VERTEX_ATTRIBUTES, vertex_buffer_layout }` whose struct
`S` is emitted, the `#[repr(C)]` layout of `S` (Ext.ReprC) and the attribute table pass the
vertex-buffer rules of wgpu-core's `create_render_pipeline` (Ext.WgpuVertex) – in all three
representations (glam's 16-aligned `Vec4` included), for any device limit the struct's size fits in.
-/
namespace WgslVerif

namespace WgpuVertex
/-- `VertexFormat::size` -/
def formatSize (f : String) : Option Nat := (formatInfo f).map fun i => i.2.1 * i.2.2
end WgpuVertex

namespace ReprC

theorem roundUp_mod (x a : Nat) : roundUp x a % a = 0 := by
  unfold roundUp; exact Nat.mul_mod_left _ _

theorem le_roundUp (x a : Nat) (ha : 0 < a) : x ≤ roundUp x a := by
  have := Nat.lt_div_mul_add (a := x + a - 1) ha
  unfold roundUp
  omega

theorem dvd_roundUp {d a : Nat} (x : Nat) (h : d ∣ a) : d ∣ roundUp x a :=
  Nat.dvd_trans h (Nat.dvd_of_mod_eq_zero (roundUp_mod x a))

/-- alignments that occur in vertex input structs -/
def GoodAlign (a : Nat) : Prop := a = 4 ∨ a = 8 ∨ a = 16

theorem GoodAlign.pos_dvd {a : Nat} (h : GoodAlign a) : 0 < a ∧ 4 ∣ a := by
  rcases h with rfl | rfl | rfl <;> decide

/-- every field starts at a multiple of `d` when all alignments are, and ends no later than the last one does -/
theorem place_spec (d : Nat) : ∀ (items : List (Nat × Nat)) (off : Nat),
    (∀ x ∈ items, 0 < x.2 ∧ d ∣ x.2) →
    off ≤ (place off items).2 ∧
    ∀ p ∈ (place off items).1.zip (items.map (·.1)), d ∣ p.1 ∧ p.1 + p.2 ≤ (place off items).2 := by
  intro items
  induction items with
  | nil => intro off _; exact ⟨Nat.le_refl _, fun p hp => by cases hp⟩
  | cons sa rest ih =>
    intro off hal
    obtain ⟨hpos, hd⟩ := hal sa List.mem_cons_self
    obtain ⟨h2, h3⟩ := ih (roundUp off sa.2 + sa.1) (fun x hx => hal x (List.mem_cons_of_mem _ hx))
    have hle := le_roundUp off sa.2 hpos
    simp only [place, List.map_cons, List.zip_cons_cons, List.mem_cons]
    refine ⟨by omega, ?_⟩
    rintro p (rfl | hp)
    · exact ⟨dvd_roundUp off hd, h2⟩
    · exact h3 p hp

/-- what holds of the start value and of every element holds of their maximum -/
theorem foldl_max_ind (P : Nat → Prop) (items : List (Nat × Nat)) (acc : Nat) (hacc : P acc)
    (hal : ∀ x ∈ items, P x.2) : P (items.foldl (fun a x => max a x.2) acc) :=
  List.foldlRecOn items _ hacc fun _ ha x hx => max_ind P ha (hal x hx)

/-- in a `#[repr(C)]` struct whose field alignments are positive multiples of `d`, the size and all field
offsets are multiples of `d`, and every field lies inside the struct -/
theorem layout_spec (d : Nat) (items : List (Nat × Nat)) (hal : ∀ x ∈ items, 0 < x.2 ∧ d ∣ x.2) :
    d ∣ (layout items).2 ∧
    ∀ p ∈ (layout items).1.zip (items.map (·.1)), d ∣ p.1 ∧ p.1 + p.2 ≤ (layout items).2 := by
  obtain ⟨_, h3⟩ := place_spec d items 0 hal
  have hpos : 0 < structAlign items := foldl_max_ind (0 < ·) items 1 Nat.one_pos (fun x hx => (hal x hx).1)
  have hend := le_roundUp (place 0 items).2 _ hpos
  refine ⟨?_, fun p hp => ⟨(h3 p hp).1, Nat.le_trans (h3 p hp).2 hend⟩⟩
  cases items with
  | nil => exact Nat.dvd_zero d
  | cons x rest =>
    -- the alignment is that of some field: `max 1 x.2 = x.2`
    refine dvd_roundUp _ (foldl_max_ind (fun a => 0 < a ∧ d ∣ a) rest _ ?_ fun y hy => hal y (List.mem_cons_of_mem _ hy)).2
    show 0 < max 1 x.2 ∧ d ∣ max 1 x.2
    rw [Nat.max_eq_right (hal x List.mem_cons_self).1]
    exact hal x List.mem_cons_self

/-- the rules hold for the `#[repr(C)]` layout of any struct whose field alignments are 4, 8 or 16
and whose attribute sizes (= field sizes) are at least 4 -/
theorem layout_bufferOk (items : List (Nat × Nat)) (limit : Nat)
    (hal : ∀ x ∈ items, GoodAlign x.2) (hsz : ∀ x ∈ items, 4 ≤ x.1)
    (hlim : (layout items).2 ≤ limit) (hl2 : limit ≤ 0x10000000) :
    WgpuVertex.bufferOk limit (layout items).2 ((layout items).1.zip (items.map (·.1))) = true := by
  obtain ⟨hsize, hattr⟩ := layout_spec 4 items (fun x hx => (hal x hx).pos_dvd)
  unfold WgpuVertex.bufferOk
  simp only [Bool.and_eq_true, decide_eq_true_eq, List.all_eq_true]
  refine ⟨⟨Nat.mod_eq_zero_of_dvd hsize, hlim⟩, fun p hp => ?_⟩
  obtain ⟨hm, he⟩ := hattr p hp
  have hps : 4 ≤ p.2 := by
    obtain ⟨x, hx, e⟩ := List.mem_map.mp (List.of_mem_zip hp).2
    exact e ▸ hsz x hx
  unfold WgpuVertex.attrOk
  simp only [Bool.and_eq_true, decide_eq_true_eq, Nat.min_eq_right hps]
  -- offset + size ≤ stride ≤ limit ≤ 2^28 and size ≥ 4, so the offset is below 2^28; a stride of 0 leaves no room
  refine ⟨⟨?_, Nat.mod_eq_zero_of_dvd hm⟩, by omega⟩
  split <;> omega

end ReprC

/-- the non-boolean scalars of the module's scalar and vector types are 4 or 8 bytes wide (all that
WGSL can declare; booleans have no vertex format) -/
def wgslWidth (ty : Ty) : Bool :=
  match ty.inner with
  | .scalar s => s.kind == .bool || s.width == 4 || s.width == 8
  | .vector _ s => s.kind == .bool || s.width == 4 || s.width == 8
  | _ => true

theorem ScalarPrim.sizeAlign {s : Scalar} {p : String} (h : ScalarPrim s p) (hk : s.kind ≠ .bool) :
    ReprC.sizeAlign (.prim p) = some (s.width, s.width) := by
  cases h with
  | bool w => exact absurd rfl hk
  | _ => rfl

/-- glam's vectors are as large as the array of their components; `Vec4` is 16-aligned -/
theorem GlamVec.sizeAlign {n : VecSize} {s : Scalar} {g : String} (h : GlamVec n s g) :
    ∃ al, ReprC.sizeAlign (.glam g) = some (s.width * n.toNat, al) ∧ (al = s.width ∨ al = 16) := by
  cases h <;> exact ⟨_, rfl, by decide⟩

theorem VectorOk.sizeAlign {repr : Repr3} {n : VecSize} {s : Scalar} {r : RustTy} (h : VectorOk repr n s r)
    (hk : s.kind ≠ .bool) :
    ∃ al, ReprC.sizeAlign r = some (s.width * n.toNat, al) ∧ (al = s.width ∨ al = 16) := by
  cases h with
  | array _ _ hp => exact ⟨_, by rw [ReprC.sizeAlign, hp.sizeAlign hk, Option.map_some], .inl rfl⟩
  | glam hg => exact hg.sizeAlign
  | nalgebra hp => exact ⟨_, by rw [ReprC.sizeAlign, hp.sizeAlign hk, Option.map_some], .inl rfl⟩

/-- the Rust field type of a non-boolean scalar or vector occupies width × components bytes and is
aligned to the width or to 16, in every representation -/
theorem numeric_sizeAlign {m : Module} {repr : Repr3} {fuel : Nat} {ty : Ty} {r : RustTy} {k : ScalarKind}
    {w c : Nat} (hn : numericOf ty = some (k, w, c)) (hk : k ≠ .bool)
    (hr : rustType m repr fuel ty = .ok r) :
    ∃ al, ReprC.sizeAlign r = some (w * c, al) ∧ (al = w ∨ al = 16) := by
  unfold numericOf at hn
  cases rustType_ok hr with
  | scalar hi hp =>
    rw [hi] at hn
    cases hn
    exact ⟨_, by rw [hp.sizeAlign hk, Nat.mul_one], .inl rfl⟩
  | vector hi hv =>
    rw [hi] at hn
    cases hn
    exact hv.sizeAlign hk
  | _ =>
    simp only [*] at hn
    cases hn

theorem wgslWidth_numeric {ty : Ty} {k : ScalarKind} {w c : Nat} (hw : wgslWidth ty = true)
    (hn : numericOf ty = some (k, w, c)) (hk : k ≠ .bool) : (w = 4 ∨ w = 8) ∧ 0 < c := by
  unfold wgslWidth at hw
  unfold numericOf at hn
  split at hn <;> cases hn <;> simp only [*] at hw
  · exact ⟨by simpa [hk] using hw, Nat.one_pos⟩
  · rename_i n _ _
    exact ⟨by simpa [hk] using hw, by cases n <;> decide⟩

/-- a vertex-capable member type: its Rust field type has the size of the chosen vertex format,
at least 4, and alignment 4, 8 or 16 – in every representation -/
theorem vertex_sizeAlign (m : Module) (repr : Repr3) (fuel : Nat) (ty : Ty) (f : String) (r : RustTy)
    (hf : vertexFormat ty = .ok f) (hr : rustType m repr (fuel + 1) ty = .ok r) (hw : wgslWidth ty = true) :
    ∃ sz al, ReprC.sizeAlign r = some (sz, al) ∧ WgpuVertex.formatSize f = some sz ∧
      ReprC.GoodAlign al ∧ 4 ≤ sz := by
  obtain ⟨k, w, c, hn, hfi, hk⟩ := vertexFormat_ok hf
  obtain ⟨al, hsa, hal⟩ := numeric_sizeAlign hn hk hr
  obtain ⟨hw4, hc⟩ := wgslWidth_numeric hw hn hk
  refine ⟨w * c, al, hsa, by rw [WgpuVertex.formatSize, hfi, Option.map_some], ?_, ?_⟩
  · unfold ReprC.GoodAlign; omega
  · exact Nat.le_trans (by omega) (Nat.le_mul_of_pos_right w hc)

/-- a field and the attribute that points at it -/
def FieldAttr (f : RField) (a : RAttr) : Prop :=
  f.name = a.field ∧ ∃ sz al, ReprC.sizeAlign f.ty = some (sz, al) ∧ WgpuVertex.formatSize a.format = some sz ∧
    ReprC.GoodAlign al ∧ 4 ≤ sz

/-- only scalars and vectors have a vertex format -/
theorem vertexFormat_not_dyn {ty : Ty} {f : String} (h : vertexFormat ty = .ok f) {base stride : Nat} :
    ty.inner ≠ .array base .dynamic stride := by
  intro hi
  rw [vertexFormat, hi] at h
  cases h

theorem fields_attrs {m : Module} {o : Options} {sname : String} {len : Nat}
    (hw : ∀ ty ∈ m.types, wgslWidth ty = true) :
    ∀ (l : List (Nat × Member)) (idx : Nat) (fields : List RField) (attrs : List RAttr),
      l.mapM (attrOf m sname) = .ok attrs →
      structMembersFrom m o len idx (l.map (·.2)) = .ok fields →
      Pairs FieldAttr fields attrs := by
  intro l idx fields attrs ha hf
  refine (structMembersFrom_ok hf).1.join (mapM_ok_iff.mp ha) fun lm _ f a hff hfa => ?_
  obtain ⟨ty, hfn, hty, hfmt, _⟩ := attrOf_ok hfa
  obtain ⟨ty', hty', hn, hcase⟩ := hff
  rw [hty] at hty'
  rw [hfn] at hn
  cases hty'
  rcases hcase with ⟨base, stride, _, _, hi, _⟩ | ⟨_, ht, _⟩
  · exact absurd hi (vertexFormat_not_dyn hfmt)
  · exact ⟨(Option.some.inj hn).symm,
      vertex_sizeAlign m o.repr m.types.length ty _ _ hfmt ht (hw ty (List.mem_of_getElem? hty))⟩

/-- a struct whose located members all have a vertex format has no runtime-sized array member -/
theorem attrs_not_rts {m : Module} {sname : String} {l : List (Nat × Member)} {attrs : List RAttr}
    (h : l.mapM (attrOf m sname) = .ok attrs) : structHasRtsArrayMember m (l.map (·.2)) = false := by
  rw [structHasRtsArrayMember, List.any_eq_false]
  intro mem hmem
  obtain ⟨lm, hlm, rfl⟩ := List.mem_map.mp hmem
  obtain ⟨a, _, ha⟩ := (mapM_ok_iff.mp h).mem_left lm hlm
  obtain ⟨t, _, hmt, hfmt, _⟩ := attrOf_ok ha
  simp only [isDynArray, hmt]
  split
  · rename_i hi
    exact absurd hi (vertexFormat_not_dyn hfmt)
  · exact Bool.false_ne_true

/-- the `(size, alignment)` list of the fields of an emitted struct -/
def fieldItems (s : RStruct) : List (Nat × Nat) :=
  s.fields.map fun f => (ReprC.sizeAlign f.ty).getD (0, 1)

/-- struct `s` (`#[repr(C)]`, all field sizes known) and the attribute table `v` of the same name:
the table lists the fields in order, and the buffer layout
`{ array_stride: size_of::<S>(), attributes: [offset_of!(S, f), format] }` passes wgpu-core's
vertex-buffer rules under the device limit `limit` -/
def vertexBufferOkB (limit : Nat) (s : RStruct) (v : RVertex) : Bool :=
  s.reprC && (v.attrs.map (·.field) == s.fields.map (·.name)) &&
  s.fields.all (fun f => (ReprC.sizeAlign f.ty).isSome) &&
  v.attrs.all (fun a => (WgpuVertex.formatSize a.format).isSome) &&
  WgpuVertex.bufferOk limit (ReprC.layout (fieldItems s)).2
    ((ReprC.layout (fieldItems s)).1.zip (v.attrs.map fun a => (WgpuVertex.formatSize a.format).getD 0))

/-- the rule holds for a `#[repr(C)]` struct and a table that correspond field by field -/
theorem pairs_bufferOk {s : RStruct} {v : RVertex} (hc : s.reprC = true) (h : Pairs FieldAttr s.fields v.attrs)
    {limit : Nat} (hlim : (ReprC.layout (fieldItems s)).2 ≤ limit) (hl2 : limit ≤ 0x10000000) :
    vertexBufferOkB limit s v = true := by
  have hsizes : (v.attrs.map fun a => (WgpuVertex.formatSize a.format).getD 0) = (fieldItems s).map (·.1) := by
    rw [fieldItems, List.map_map]
    refine h.map_eq fun f _ a hfa => ?_
    obtain ⟨_, sz, al, hsa, hfs, _⟩ := hfa
    rw [Function.comp_apply, hsa, hfs]
    rfl
  have hitems : ∀ x ∈ fieldItems s, ReprC.GoodAlign x.2 ∧ 4 ≤ x.1 := by
    intro x hx
    obtain ⟨f, hf, rfl⟩ := List.mem_map.mp hx
    obtain ⟨a, _, hfa⟩ := h.mem_left f hf
    obtain ⟨_, sz, al, hsa, _, hga, h4⟩ := hfa
    rw [hsa]
    exact ⟨hga, h4⟩
  unfold vertexBufferOkB
  simp only [Bool.and_eq_true, beq_iff_eq, List.all_eq_true]
  refine ⟨⟨⟨⟨hc, h.map_eq fun f _ a hfa => hfa.1.symm⟩, fun f hf => ?_⟩, fun a ha => ?_⟩, ?_⟩
  · obtain ⟨a, _, hfa⟩ := h.mem_left f hf
    obtain ⟨_, sz, al, hsa, _⟩ := hfa
    rw [hsa]
    rfl
  · obtain ⟨f, _, hfa⟩ := h.mem_right a ha
    obtain ⟨_, sz, al, _, hfs, _⟩ := hfa
    rw [hfs]
    rfl
  · rw [hsizes]
    exact ReprC.layout_bufferOk _ limit (fun x hx => (hitems x hx).1) (fun x hx => (hitems x hx).2) hlim hl2

/-- **C07** (vertex-buffer validation): every attribute table whose struct is emitted passes
wgpu-core's vertex-buffer rules – stride a multiple of 4, every attribute inside the stride and at
an offset that is a multiple of `min(size, 4)` – for the `#[repr(C)]` layout of that struct, in all
three representations, under any device limit the struct fits in. -/
theorem C07_buffer {m : Module} {o : Options} {src : String} {path : Option String} {out : Out}
    (hg : gen m o src path = .ok out)
    (hnames : ((indexed m.types).filterMap structNameOf).Nodup)
    (hw : ∀ ty ∈ m.types, wgslWidth ty = true)
    (v : RVertex) (hv : v ∈ out.vertex) (s : RStruct) (hs : s ∈ out.structs) (hsv : s.name = v.name)
    (limit : Nat) (hlim : (ReprC.layout (fieldItems s)).2 ≤ limit) (hl2 : limit ≤ 0x10000000) :
    vertexBufferOkB limit s v = true := by
  have hp := gen_ok hg
  obtain ⟨inputs, hin, _, hvs⟩ := vertexStructMethods_ok hp.vertex
  obtain ⟨inp, hinp, attrs, hattrs, rfl⟩ := hvs v hv
  obtain ⟨e, _, _, a, _, _, hvi⟩ := getVertexInputStructs_mem hin inp hinp
  obtain ⟨ty, members, span, hty, hinner, htn, hloc⟩ := vertexInputOf_some hvi
  -- struct names are distinct, so `s` is made from the arena entry of the vertex input
  obtain ⟨hd, ty', members', span', hfind, hi', hr⟩ := structs_find hp.structs hnames hs
  cases hfind.symm.trans (find?_key hnames (mem_indexed.mpr hty)
    (structNameOf_eq_some.mpr ⟨members, span, hinner, hsv ▸ htn⟩))
  rw [hinner] at hi'
  cases hi'
  obtain ⟨_, hfields, _, hc⟩ := rustStruct_proj hr
  rw [← (locatedMembers_ok hloc).2] at hfields hc
  refine pairs_bufferOk ?_ (fields_attrs hw inp.fields 0 _ attrs hattrs hfields) hlim hl2
  rw [hc, attrs_not_rts hattrs]
  rfl

/-! ## Non-vacuity: a concrete struct under the glam representation -/

namespace C07Example
def s : RStruct :=
  { name := "V", reprC := true, derives := [],
    fields := [⟨"a", .prim "f32", false⟩, ⟨"b", .glam "Vec4", false⟩, ⟨"c", .array (.prim "f32") 3, false⟩, ⟨"d", .glam "DVec2", false⟩],
    asserts := [] }
def v : RVertex :=
  { name := "V", count := 4, strideOf := "V", attrsOf := "V",
    attrs := [⟨"Float32", "V", "a", 0⟩, ⟨"Float32x4", "V", "b", 1⟩, ⟨"Float32x3", "V", "c", 2⟩, ⟨"Float64x2", "V", "d", 5⟩] }
/-- `a` at 0, `b` at 16 (glam's 16-aligned `Vec4`), `c` at 32, `d` at 48 (8-aligned), size 64 -/
example : ReprC.layout (fieldItems s) = ([0, 16, 32, 48], 64) := by decide +kernel
example : vertexBufferOkB 2048 s v = true := by decide +kernel
/-- the rule is not trivially true: a packed placement of `b` at offset 4 with stride 60 is fine
for wgpu (multiple of 4) but an offset of 2 is rejected, and so is a stride of 62 -/
example : WgpuVertex.bufferOk 2048 60 [(0, 4), (4, 16)] = true ∧ WgpuVertex.bufferOk 2048 60 [(2, 4)] = false ∧
    WgpuVertex.bufferOk 2048 62 [(0, 4)] = false ∧ WgpuVertex.bufferOk 2048 16 [(4, 16)] = false := by decide
end C07Example

end WgslVerif
