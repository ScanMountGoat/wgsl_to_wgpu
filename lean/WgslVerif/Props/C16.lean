import WgslVerif.Lemmas.Gen
import WgslVerif.Ext.RustLex
/-
C16 – Embedded shader source is byte-identical to the input.

Partial: that prettyplease / rustfmt do not alter literal tokens is behaviour of external
programs; it is checked per case by reading the literal back from the real (formatted and
unformatted) output and unescaping it with `RustLex.unescapeToken`.
-/
namespace WgslVerif
open RustLex

/-- what the property prescribes for the `SOURCE` constant and its consumer -/
def C16Ok (src : String) (path : Option String) (out : Out) : Prop :=
  (match path, out.source with
    | some p, .includeStr p' => p' = p
    | none, .literal v raw => v = src ∧ (raw = "" ∨ unescapeToken raw = some src)
    | _, _ => False) ∧
  ("fn:create_shader_module", createShaderModuleText) ∈ out.boiler

instance (src : String) (path : Option String) (out : Out) : Decidable (C16Ok src path out) := by
  unfold C16Ok
  cases path <;> cases out.source <;> infer_instance

/-- **C16** (the literal token): however the characters of the source are escaped – verbatim where
the Rust lexer allows it, or by any of their legal escapes – the literal evaluates to exactly the
source, for every source string. -/
theorem C16_literal_roundtrip (src : String) (body : List Char) (h : EscOf src.toList body) :
    unescapeToken (String.ofList ('"' :: body ++ ['"'])) = some src := by
  unfold unescapeToken
  have h1 : (String.ofList ('"' :: body ++ ['"'])).toList = '"' :: (body ++ ['"']) := by
    simp [String.toList_ofList]
  rw [h1]
  simp only [List.reverse_append, List.reverse_cons, List.reverse_nil, List.nil_append,
    List.singleton_append, List.reverse_reverse]
  rw [unesc_of_esc h]
  simp [String.ofList_toList]

/-- **C16** (model): with an include path the constant is `include_str!` of exactly that path;
without, it is a literal whose value is the source; `create_shader_module` is the fixed template
that hands `Cow::Borrowed(SOURCE)` to the device as `ShaderSource::Wgsl`. -/
theorem C16 {m : Module} {o : Options} {src : String} {path : Option String} {out : Out}
    (hg : gen m o src path = .ok out) : C16Ok src path out := by
  have hp := gen_ok hg
  unfold C16Ok
  rw [hp.source, hp.boiler]
  refine ⟨?_, by simp⟩
  cases path with
  | none => exact ⟨rfl, Or.inl rfl⟩
  | some p => rfl

/-- **C16** (include variant differs only in `SOURCE`): same module and options, with and
without an include path, give outputs that agree on everything except the source constant. -/
theorem C16_include_only_source {m : Module} {o : Options} {src : String} {p : String} {out out' : Out}
    (hg : gen m o src none = .ok out) (hg' : gen m o src (some p) = .ok out') :
    { out with source := .includeStr p } = out' := by
  rw [gen_ok_agree hg hg', (gen_ok hg').source, ← Except.ok.inj ((gen_ok hg).structs.symm.trans (gen_ok hg').structs)]
  rfl

/-! ### Non-vacuity: an escaped literal with every escape form -/
example : unescapeToken "\"a\\n\\\"b\\\\ \\u{1f600}\\x41\\0\"" = some "a\n\"b\\ 😀A\x00" := by decide +kernel

example : EscOf "a\nb".toList ['a', '\\', 'n', 'b'] :=
  .cons (.verbatim 'a' (by decide) (by decide) (by decide))
    (.cons .nl (.cons (.verbatim 'b' (by decide) (by decide) (by decide)) .nil))

end WgslVerif
