import WgslVerif.Props.C14
/-
C07 – Vertex buffer layouts mirror the vertex input structs
(relative to `WgpuVertex.formatInfo`, the table of `wgpu_types::VertexFormat`).

Offsets and stride are emitted symbolically (`offset_of!(S, field)`, `size_of::<S>()`), so they
are the Rust field offset / struct size by construction; their values are evaluated by rustc
(batch harness).  Partial: a vertex entry with a bare `@location` parameter outside any struct
gets no attribute for it (recorded finding); the theorems speak of the struct parameters only, none
claims that every located input of an entry has an attribute.
-/
namespace WgslVerif

namespace WgpuVertex
/-- `wgpu_types::VertexFormat` variant ↦ (scalar kind, width in bytes, components)
(`NumericType::from_vertex_format` / `VertexFormat::size`) -/
def formatInfo : String → Option (ScalarKind × Nat × Nat)
  | "Sint32" => some (.sint, 4, 1) | "Uint32" => some (.uint, 4, 1)
  | "Float32" => some (.float, 4, 1) | "Float64" => some (.float, 8, 1)
  | "Sint8x2" => some (.sint, 1, 2) | "Uint8x2" => some (.uint, 1, 2)
  | "Sint16x2" => some (.sint, 2, 2) | "Uint16x2" => some (.uint, 2, 2)
  | "Uint32x2" => some (.uint, 4, 2) | "Sint32x2" => some (.sint, 4, 2)
  | "Float32x2" => some (.float, 4, 2) | "Float64x2" => some (.float, 8, 2)
  | "Uint32x3" => some (.uint, 4, 3) | "Sint32x3" => some (.sint, 4, 3)
  | "Float32x3" => some (.float, 4, 3) | "Float64x3" => some (.float, 8, 3)
  | "Sint8x4" => some (.sint, 1, 4) | "Uint8x4" => some (.uint, 1, 4)
  | "Sint16x4" => some (.sint, 2, 4) | "Uint16x4" => some (.uint, 2, 4)
  | "Uint32x4" => some (.uint, 4, 4) | "Sint32x4" => some (.sint, 4, 4)
  | "Float32x4" => some (.float, 4, 4) | "Float64x4" => some (.float, 8, 4)
  | _ => none
end WgpuVertex

/-- (scalar kind, width, component count) of a WGSL scalar or vector type -/
def numericOf (ty : Ty) : Option (ScalarKind × Nat × Nat) :=
  match ty.inner with
  | .scalar s => some (s.kind, s.width, 1)
  | .vector n s => some (s.kind, s.width, n.toNat)
  | _ => none

/-- the rows of `vertex_format`, read through `formatInfo`; no format is boolean -/
theorem vertexFormat_ok {ty : Ty} {f : String} (h : vertexFormat ty = .ok f) :
    ∃ k w c, numericOf ty = some (k, w, c) ∧ WgpuVertex.formatInfo f = some (k, w, c) ∧ k ≠ .bool := by
  unfold vertexFormat at h
  unfold numericOf
  split at h
  case h_5 => cases h   -- neither a scalar nor a vector
  all_goals
    split at h <;> cases h <;> simp only [*] <;> exact ⟨_, _, _, rfl, by decide, by decide⟩

/-- **C07** (format): the chosen vertex format has the same scalar kind, width and component
count as the WGSL type – for every type the generator accepts. -/
theorem C07_format (ty : Ty) (f : String) (h : vertexFormat ty = .ok f) :
    WgpuVertex.formatInfo f = numericOf ty := by
  obtain ⟨k, w, c, hn, hf, _⟩ := vertexFormat_ok h
  rw [hn, hf]

/-- what the property demands of one generated `impl S { VERTEX_ATTRIBUTES; vertex_buffer_layout }` -/
structure VertexStructOk (m : Module) (v : RVertex) : Prop where
  /-- `S` is a struct of the module; exactly one attribute per `@location` member, in member order,
  carrying that member's location and the offset of the field of the same name -/
  attrs : ∃ (h : Nat) (ty : Ty) (members : List Member) (span : Nat), m.types[h]? = some ty ∧ ty.inner = .struct members span ∧ ty.name = some v.name ∧
    v.attrs.map (fun a => (a.location, some a.field, a.ofStruct)) =
      (members.filterMap fun mem => match mem.binding with
        | some (.location l) => some (l, mem.name, v.name)
        | _ => none) ∧
    /- … whose format has the member type's scalar kind, width and component count -/
    v.attrs.map (fun a => WgpuVertex.formatInfo a.format) =
      (members.filterMap fun mem => match mem.binding with
        | some (.location _) => some ((m.types[mem.ty]?).bind numericOf)
        | _ => none)
  count : v.count = v.attrs.length
  /-- stride is `size_of::<S>()`, the layout refers to `S::VERTEX_ATTRIBUTES` -/
  self : v.strideOf = v.name ∧ v.attrsOf = v.name

/-- per vertex-entry helper: one buffer per struct parameter in parameter order, each with its own
step-mode parameter; `N` = their number.  `C07_entries` states the same five facts as equations over the list of helpers. -/
def VertexEntryOk (m : Module) (e : EntryPoint) (v : RVertexEntry) : Prop :=
  v.fnName = e.name ++ "_entry" ∧ v.entryConst = "ENTRY_" ++ e.upper ∧
  v.n = v.buffers.length ∧
  v.buffers.map (fun b => some b.1) =
    ((e.fn.args.filter fun a => a.2.isNone).filter (isStructArg m)).map (fun a => (m.types[a.1]?).bind (·.name)) ∧
  v.params.map (·.1) = v.buffers.map (·.2) ++ (if m.overrides.isEmpty then [] else ["overrides"])

/-- **C07** (attribute tables): every generated `impl S` block mirrors struct `S`. -/
theorem C07_structs {m : Module} {o : Options} {src : String} {path : Option String} {out : Out}
    (hg : gen m o src path = .ok out) (v : RVertex) (hv : v ∈ out.vertex) : VertexStructOk m v := by
  obtain ⟨inputs, hin, _, hvs⟩ := vertexStructMethods_ok (gen_ok hg).vertex
  obtain ⟨inp, hinp, attrs, hattrs, rfl⟩ := hvs v hv
  obtain ⟨e, _, _, a, _, _, hvi⟩ := getVertexInputStructs_mem hin inp hinp
  obtain ⟨ty, members, span, hty, hinner, htn, hloc⟩ := vertexInputOf_some hvi
  refine ⟨⟨a.1, ty, members, span, hty, hinner, htn, ?_, ?_⟩, (mapM_ok_iff.mp hattrs).length_eq.symm, rfl, rfl⟩
  · refine (mapM_ok_map_eq hattrs fun lm _ at' hat => ?_).trans
      ((locatedMembers_ok hloc).1 fun l mem => (l, mem.name, inp.name))
    obtain ⟨_, hfn, _, _, hs, hl⟩ := attrOf_ok hat
    rw [hfn, hs, hl]
  · refine (mapM_ok_map_eq hattrs fun lm _ at' hat => ?_).trans
      ((locatedMembers_ok hloc).1 fun _ mem => (m.types[mem.ty]?).bind numericOf)
    obtain ⟨t, _, hmt, hfmt, _⟩ := attrOf_ok hat
    rw [hmt, C07_format t _ hfmt]
    rfl

/-- **C07** (entry helpers): each vertex entry helper yields one buffer layout per struct
parameter, in parameter order, each driven by its own step-mode parameter; `N` is their number;
the helper refers to the entry's own `ENTRY_*` constant. -/
theorem C07_entries {m : Module} {o : Options} {src : String} {path : Option String} {out : Out}
    (hg : gen m o src path = .ok out) :
    out.vertexEntries.map (fun v => (v.fnName, v.entryConst, v.n, v.buffers.map (fun b => some b.1),
        v.params.map (·.1) == v.buffers.map (·.2) ++ (if m.overrides.isEmpty then [] else ["overrides"]))) =
      (m.entries.filter fun e => e.stage == .vertex).map fun e =>
        (e.name ++ "_entry", "ENTRY_" ++ e.upper, structParamCount m e,
          ((e.fn.args.filter fun a => a.2.isNone).filter (isStructArg m)).map (fun a => (m.types[a.1]?).bind (·.name)),
          true) := by
  refine vertexEntries_map (gen_ok hg).vertexEntries (fun e inputs hin => ?_)
  have hnames := vertexEntryStructs_names hin
  simp only [Prod.mk.injEq, true_and]
  refine ⟨vertexEntryStructs_length hin, ?_, ?_⟩
  · simpa [List.map_map, Function.comp_def] using hnames
  · unfold overridesParam
    by_cases he : m.overrides.isEmpty = true <;> simp [he, List.map_map, Function.comp_def]

end WgslVerif
