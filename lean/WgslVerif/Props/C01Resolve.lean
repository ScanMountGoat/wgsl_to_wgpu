import WgslVerif.Props.C01Static
/-
C01, "every referenced item is defined" (`RustStatic.resolveIssues`), clause group by clause group.
-/
namespace WgslVerif
open RustStatic

/-- **C01** (groups resolve): the pipeline layout, `get_bind_group_layout`, `from_bindings`, `BindGroups` and
`set_bind_groups` only mention groups that are emitted, and bind entries only fields of their own layout struct. -/
theorem C01_resolve_groups {m : Module} {o : Options} {src : String} {path : Option String} {out : Out}
    (hg : gen m o src path = .ok out) : resolveGroups out = [] := by
  have h04 := C04 hg
  simp only [resolveGroups, List.append_eq_nil_iff, List.flatMap_eq_nil_iff, List.filterMap_eq_nil_iff, unless_none,
    unless_nil, List.contains_iff_mem, Bool.and_eq_true]
  refine ⟨⟨fun g hgm => h04.pipeline ▸ hgm, fun g hgm => ?_⟩, ?_⟩
  · have hgo := h04.groups g hgm
    obtain ⟨w1, w2, w3, _⟩ := hgo.wiring
    have hno : g.no ∈ out.groups.map (·.no) := List.mem_map_of_mem hgm
    rw [w1, w2, w3]
    refine ⟨⟨⟨hno, hno⟩, hno⟩, fun b hb => ?_⟩
    -- fields and bind entries are both named after the variables of the group
    exact (mem_map_some hgo.fieldNames).mp ((mem_map_some hgo.bindNames).mpr (List.mem_map_of_mem hb))
  · have hsa := h04.setAll
    cases hbm : out.bindModule with
    | none => rfl
    | some bm =>
      rw [hbm] at hsa
      obtain ⟨⟨a, b, c, d, _⟩, _⟩ := hsa
      simp only [List.filterMap_eq_nil_iff, unless_none, a, b, c, d, List.map_map, Function.comp_def,
        List.append_assoc, List.mem_append, or_self]
      exact fun g hg => hg

theorem C01_resolve_push {m : Module} {o : Options} {src : String} {path : Option String} {out : Out}
    (hg : gen m o src path = .ok out) : resolvePush out = [] := by
  obtain ⟨push, _, hps, hpr⟩ := (gen_ok hg).push
  simp only [resolvePush, List.filterMap_eq_nil_iff, unless_none, beq_iff_eq, hps, hpr]
  cases push with
  | none => exact fun r hr => nomatch hr
  | some p =>
    intro r hr
    cases List.mem_singleton.mp hr
    rfl

/-- **C01** (field types resolve): every struct a field type mentions is emitted. -/
theorem C01_resolve_field_types {m : Module} {o : Options} {src : String} {path : Option String} {out : Out}
    (hb : DeriveBenign m o) (hg : gen m o src path = .ok out) : resolveFieldTypes out = [] := by
  simp only [resolveFieldTypes, List.flatMap_eq_nil_iff, List.filterMap_eq_nil_iff, unless_none, List.contains_iff_mem]
  intro s hs f hfm n hn
  obtain ⟨hd, ty, ms, sp, hin, hw, hi, hr⟩ := structs_mem (gen_ok hg).structs hs
  obtain ⟨mem, hmem, hff⟩ := (structMembers_ok (rustStruct_fields hr)).1.mem_right f hfm
  obtain ⟨h', ty', ms', sp', a, b, c, dd⟩ := field_named hff n hn
  obtain ⟨_, _, s', hfind, _⟩ := named_emitted hb hg (mem_indexed.mp hin) hi hw hmem dd a b c
  exact mem_names_of_findStruct hfind

/-- **C01** (entry helpers resolve): each `<entry>_entry` helper refers to its own `ENTRY_*` constant, to attribute
tables that exist, to its own step-mode parameters, and to `OverrideConstants` exactly when that struct exists. -/
theorem C01_resolve_entries {m : Module} {o : Options} {src : String} {path : Option String} {out : Out}
    (hg : gen m o src path = .ok out) : resolveEntries out = [] := by
  have hp := gen_ok hg
  obtain ⟨all, hall, hnames, _⟩ := vertexStructMethods_ok hp.vertex
  have hec : ∀ e ∈ m.entries, "ENTRY_" ++ e.upper ∈ out.entryConsts.map (·.1) := by
    intro e he
    rw [entryConsts_names hg]
    exact List.mem_map_of_mem he
  -- the helpers take `overrides` and read it exactly when there are overrides, i.e. when the struct exists
  have hoc : ∀ ps : List (String × String), constSrc m = .overrides →
      out.overrides.isSome = true ∧ "overrides" ∈ (ps ++ overridesParam m).map (·.1) := by
    intro ps hc
    rw [(overrides_ok hp.overrides).1, List.map_append, overridesParam_names, overrideParamNames]
    cases he : m.overrides.isEmpty with
    | true =>
      rw [constSrc, if_pos he] at hc
      cases hc
    | false => exact ⟨rfl, List.mem_append_right _ (List.mem_singleton_self _)⟩
  simp only [resolveEntries, List.append_eq_nil_iff, List.flatMap_eq_nil_iff, unless_nil, when_nil,
    List.contains_iff_mem, Bool.and_eq_true, Bool.not_eq_true', ← Bool.not_eq_true, beq_iff_eq, not_and,
    Decidable.not_imp_iff_and_not, Decidable.not_not]
  refine ⟨fun ve hve => ?_, fun fe hfe => ?_⟩
  · obtain ⟨e, he, inputs, hin, rfl⟩ := vertexEntries_mem hp.vertexEntries hve
    refine ⟨⟨hec e (List.mem_filter.mp he).1, fun b hb => ?_⟩, hoc _⟩
    obtain ⟨i, hi, rfl⟩ := List.mem_map.mp hb
    -- every struct parameter has an attribute table, and its own step-mode parameter
    refine ⟨hnames ▸ getVertexInputStructs_complete hall he hin hi, ?_⟩
    rw [List.map_append, List.map_map]
    exact List.mem_append_left _ (List.mem_map_of_mem (f := (·.1) ∘ fun i => (i.snake, "wgpu :: VertexStepMode")) hi)
  · rw [hp.fragmentEntries] at hfe
    obtain ⟨e, he, rfl⟩ := List.mem_map.mp hfe
    exact ⟨hec e (List.mem_filter.mp he).1, hoc _⟩

/-- WGSL-side condition (decidable): every struct parameter of a vertex entry point is emitted, i.e. it is not at
the same time an entry point's return type – unless a module-scope variable reaches it.  (The excluded modules are
the recorded finding `rustc#vertex-input-struct-not-emitted`.) -/
def VertexInputsEmitted (m : Module) : Prop :=
  ∀ e ∈ m.entries, e.stage = .vertex → ∀ a ∈ e.fn.args, a.2 = none → ∀ vi, vertexInputOf m a = .ok (some vi) →
    structWanted m (globalVariableTypes m) a.1 = true

def vertexInputsEmittedB (m : Module) : Bool :=
  m.entries.all fun e => e.stage != .vertex || e.fn.args.all fun a => a.2.isSome ||
    match vertexInputOf m a with
    | .ok (some _) => structWanted m (globalVariableTypes m) a.1
    | _ => true

theorem vertexInputsEmittedB_sound (m : Module) (h : vertexInputsEmittedB m = true) : VertexInputsEmitted m := by
  simp only [vertexInputsEmittedB, List.all_eq_true, Bool.or_eq_true, bne_iff_ne, ne_eq] at h
  intro e he hst a ha ha2 vi hvi
  rcases h e he with h1 | h1
  · exact (h1 hst).elim
  · have := h1 a ha
    rw [ha2, hvi] at this
    simpa using this

/-- **C01** (attribute tables resolve): every `impl S { VERTEX_ATTRIBUTES; vertex_buffer_layout }` block is about an
emitted struct `S`, and every `offset_of!(S, field)` names a field of it. -/
theorem C01_resolve_vertex {m : Module} {o : Options} {src : String} {path : Option String} {out : Out}
    (ha : TypeArenaOk m) (hve : VertexInputsEmitted m) (hg : gen m o src path = .ok out) : resolveVertex out = [] := by
  obtain ⟨inputs, hin, _, hvs⟩ := vertexStructMethods_ok (gen_ok hg).vertex
  -- per table: it refers to itself, its struct is emitted under its name, every attribute names a field of that struct
  have key : ∀ v ∈ out.vertex, v.strideOf = v.name ∧ v.attrsOf = v.name ∧ v.name ∈ out.structs.map (·.name) ∧
      ∀ a ∈ v.attrs, structHasField out.structs a.ofStruct a.field = true := by
    intro v hv
    obtain ⟨inp, hinp, attrs, hattrs, rfl⟩ := hvs v hv
    obtain ⟨e, he, hst, a, ham, ha2, hvi⟩ := getVertexInputStructs_mem hin inp hinp
    obtain ⟨ty, members, span, hty, hi, htn, hloc⟩ := vertexInputOf_some hvi
    obtain ⟨s, hfind, hrs⟩ := findStruct_wanted ha hg hty hi htn (hve e he hst a ham ha2 inp hvi)
    refine ⟨rfl, rfl, mem_names_of_findStruct hfind, fun at' hat => ?_⟩
    obtain ⟨lm, hlm, hfa⟩ := mapM_ok_mem hattrs at' hat
    obtain ⟨_, hfn, _, _, hs, _⟩ := attrOf_ok hfa
    -- the located member is a non-builtin member, hence a field
    have h1 : some at'.field ∈ (members.filter fun mm => !isBuiltinMember mm).map (·.name) := by
      rw [← (locatedMembers_ok hloc).2, List.map_map]
      exact List.mem_map.mpr ⟨lm, hlm, hfn⟩
    obtain ⟨f, hfm, hfe⟩ := List.mem_map.mp ((mem_map_some (structMembers_names (rustStruct_fields hrs))).mp h1)
    rw [hs, structHasField, hfind]
    exact List.any_eq_true.mpr ⟨f, hfm, beq_iff_eq.mpr hfe⟩
  simp only [resolveVertex, List.append_eq_nil_iff, List.flatMap_eq_nil_iff, List.filterMap_eq_nil_iff, unless_none,
    unless_nil, List.contains_iff_mem, Bool.or_eq_true, beq_iff_eq]
  refine ⟨fun v hv => (key v hv).2.2.1, fun v hv => ?_⟩
  obtain ⟨h1, h2, _, h3⟩ := key v hv
  refine ⟨⟨Or.inr h1, h2 ▸ List.mem_map_of_mem hv⟩, fun a' ha' => ?_⟩
  simp only [h3 a' ha', if_true, ite_self]

/-- **C01** (references resolve): for a benign module whose vertex input structs are emitted, `Ext.RustStatic`
finds no unresolved reference in a successfully generated module. -/
theorem C01_resolve {m : Module} {o : Options} {src : String} {path : Option String} {out : Out}
    (hb : DeriveBenign m o) (hve : VertexInputsEmitted m) (hg : gen m o src path = .ok out) :
    resolveIssues out = [] := by
  unfold resolveIssues
  rw [C01_resolve_field_types hb hg, C01_resolve_vertex hb.arena hve hg, C01_resolve_entries hg,
    C01_resolve_groups hg, C01_resolve_push hg]
  rfl

/-- **C01** (static semantics, full): for every module and option set meeting the four decidable WGSL-side
conditions, on the prettyplease path, `Ext.RustStatic` finds nothing at all in a successfully generated module –
no duplicate item, no shadowed crate, no unresolved reference, no unsatisfiable derive, no mistyped literal, no
keyword identifier, no capturable constant. -/
theorem C01_static {m : Module} {o : Options} {src : String} {path : Option String} {out : Out}
    (hn : namesBenignB m = true) (hd : deriveBenignB m o = true) (hs : shadowBenignB m = true)
    (hv : vertexInputsEmittedB m = true) (hr : o.rustfmt = false) (hg : gen m o src path = .ok out) :
    RustStatic.issues out = [] := by
  obtain ⟨h1, h2, h3, h4, h5, h6⟩ := C01_static_partial hn hd hs hr hg
  unfold RustStatic.issues
  rw [h1, h2, C01_resolve (deriveBenignB_sound m o hd) (vertexInputsEmittedB_sound m hv) hg, h3, h4, h5, h6]
  rfl

/-- the whole static semantics predicate on the model's output -/
theorem C01_static_ok {m : Module} {o : Options} {src : String} {path : Option String} {out : Out}
    (hn : namesBenignB m = true) (hd : deriveBenignB m o = true) (hs : shadowBenignB m = true)
    (hv : vertexInputsEmittedB m = true) (hr : o.rustfmt = false) (hg : gen m o src path = .ok out) :
    RustStatic.ok out = true := by
  unfold RustStatic.ok
  rw [C01_static hn hd hs hv hr hg]
  rfl

example : vertexInputsEmittedB (C01DeriveExample.modl (.scalar ⟨.sint, 4⟩)) = true := by decide +kernel

end WgslVerif
