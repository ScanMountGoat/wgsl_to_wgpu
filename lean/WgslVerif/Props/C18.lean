import WgslVerif.Model.Top
import WgslVerif.Lemmas.Structs
/-
C18 – Output is a pure function of source and options.

The generator's only unordered container is the `HashSet` of variable types
(`global_variable_types`); the model takes it as a list in ARBITRARY order and the theorem shows
the output does not depend on that order (nor on duplicates) – only on membership.
Everything else is a Lean function of `(m, o, src, path)`, i.e. pure by construction; the tie to
the real code (which would break if the code started to iterate the set, read the environment,
…) is the correspondence check plus the `determinism` harness (processes, threads, strace).
Partial: schedules, processes and hash seeds are runtime.
-/
namespace WgslVerif

/-- **C18** (set order): any two enumerations of the variable-type set – any order, any
multiplicity – give the same struct section. -/
theorem C18_set_order (m : Module) (o : Options) (a b : List Nat) (h : ∀ x, x ∈ a ↔ x ∈ b) :
    structsWith m o a = structsWith m o b :=
  structsWith_congr (fun x => by unfold structWanted; rw [contains_congr h x])
    (fun hd _ _ => rustStruct_set_congr (contains_congr h hd))

/-- in particular, any permutation of the set's iteration order -/
theorem C18_perm (m : Module) (o : Options) (π : List Nat) (hπ : π.Perm (globalVariableTypes m)) :
    structsWith m o π = structs m o :=
  C18_set_order m o π (globalVariableTypes m) (fun _ => hπ.mem_iff)

/-- **C18** (function of its arguments): equal module, options, source and path give equal
results – there is no other input to the model. -/
theorem C18_pure (m : Module) (o : Options) (src : String) (path : Option String) (r r' : G Out)
    (h : r = gen m o src path) (h' : r' = gen m o src path) : r = r' := h.trans h'.symm

end WgslVerif
