import WgslVerif.Lemmas.StagesEntry
/-
C03 – Binding visibility equals exactly the stages that statically use it.

Specification side (independent of the traversal): `Occurs`/`CallsFn` (a call statement
anywhere in the body – all block-carrying statement kinds – or a call result among the
expressions), `ReachS` (reflexive-transitive closure over arena functions), `UsesFn`
(an expression naming the variable), `StaticallyUses`.
-/
namespace WgslVerif

/-- spec-level reachability between arena functions -/
inductive ReachS (m : Module) : Nat → Nat → Prop
  | refl (n) : ReachS m n n
  | step {a b c f} : m.functions[a]? = some f → CallsFn f b → ReachS m b c → ReachS m a c

/-- entry point `e` statically accesses the variable named `n`: directly, or through any chain
of function calls -/
def StaticallyUses (m : Module) (e : EntryPoint) (n : String) : Prop :=
  UsesFn m e.fn n ∨
  ∃ h, CallsFn e.fn h ∧ ∃ x f, ReachS m h x ∧ m.functions[x]? = some f ∧ UsesFn m f n

theorem reach_iff_reachS (m : Module) (a c : Nat) : Reach m a c ↔ ReachS m a c := by
  constructor
  · intro h
    induction h with
    | refl => exact .refl _
    | step hs _ ih =>
      obtain ⟨f, hf, hc⟩ := mem_succOf.mp hs
      exact .step hf hc ih
  · intro h
    induction h with
    | refl => exact .refl _
    | step hf hc _ ih => exact .step (mem_succOf.mpr ⟨_, hf, hc⟩) ih

theorem entryUses_iff (m : Module) (e : EntryPoint) (n : String) :
    EntryUses m e n ↔ StaticallyUses m e n := by
  simp only [EntryUses, StaticallyUses, UsesH, mem_usesOf_evFn, mem_callsOf_evFn, reach_iff_reachS,
    exists_and_left]

/-- **C03**: the stage set computed for variable `n` contains stage `g` iff some entry point of
stage `g` statically uses `n`. No using stage is missing, no unused stage is added. -/
theorem C03_visibility (m : Module) (hv : CallsEarlier m) (n : String) (g : Stage) :
    ((globalShaderStages m).getD n).has g = true ↔
      ∃ e ∈ m.entries, e.stage = g ∧ StaticallyUses m e n := by
  have h := (entries_fold_spec m hv m.entries (fun _ h => h) ⟨[], [], 0, 0⟩).1 n g
  -- the map starts empty: no stage is there before the first entry point
  have h0 : (StageMap.getD [] n).has g = false := Stages.has_none g
  rw [h0] at h
  simp only [Bool.false_eq_true, false_or, entryUses_iff] at h
  exact h

/-- **C03** (absence): the map has an entry for `n` iff some entry point statically uses it; so a
binding no entry point reaches falls back to `NONE`, and an unused push constant to the
entry-stage fallback. -/
theorem C03_present (m : Module) (hv : CallsEarlier m) (n : String) :
    ((globalShaderStages m).get? n).isSome = true ↔
      ∃ e ∈ m.entries, StaticallyUses m e n := by
  have h := (entries_fold_spec m hv m.entries (fun _ h => h) ⟨[], [], 0, 0⟩).2.1 n
  have h0 : (StageMap.get? [] n).isSome = false := rfl
  rw [h0] at h
  simp only [Bool.false_eq_true, false_or, entryUses_iff] at h
  exact h

theorem get?_eq_none_of_unused (m : Module) (hv : CallsEarlier m) (n : String)
    (h : ¬ ∃ e ∈ m.entries, StaticallyUses m e n) : (globalShaderStages m).get? n = none :=
  Option.not_isSome_iff_eq_none.mp (mt (C03_present m hv n).mp h)

/-- A binding nobody reaches gets the empty stage set. -/
theorem C03_unreached_none (m : Module) (hv : CallsEarlier m) (n : String)
    (h : ¬ ∃ e ∈ m.entries, StaticallyUses m e n) : (globalShaderStages m).getD n = Stages.none := by
  rw [StageMap.getD, get?_eq_none_of_unused m hv n h]
  rfl

/-- `entry_stages` is the set of stages that have an entry point. -/
theorem C03_entryStages (m : Module) (g : Stage) :
    (entryStages m).has g = true ↔ ∃ e ∈ m.entries, e.stage = g := by
  have : ∀ (es : List EntryPoint) (s : Stages),
      (es.foldl (fun s e => s.union (Stages.ofStage e.stage)) s).has g = true ↔
        (s.has g = true ∨ ∃ e ∈ es, e.stage = g) := by
    intro es
    induction es with
    | nil => intro s; simp
    | cons e es ih =>
      intro s
      simp only [List.foldl_cons, ih, Stages.has_union, Bool.or_eq_true, Stages.has_ofStage,
        List.mem_cons, exists_eq_or_imp, or_assoc]
  simpa [entryStages, Stages.has_none] using this m.entries Stages.none

/-! ### executable hypothesis check and non-vacuity -/

/-- executable form of `CallsEarlier` (evaluated on every module the harness dumps) -/
def callsEarlierB (m : Module) : Bool :=
  (List.range m.functions.length).all (fun h => (succOf m h).all (· < h)) &&
  m.entries.all (fun e => (callsOf (evFn m e.fn)).all (· < m.functions.length))

theorem callsEarlierB_sound (m : Module) (h : callsEarlierB m = true) : CallsEarlier m := by
  simp only [callsEarlierB, Bool.and_eq_true, List.all_eq_true, List.mem_range,
    decide_eq_true_eq] at h
  exact ⟨edges_lt_of_lt (fun _ => succOf_eq_nil) h.1, h.2⟩

private def fnLeaf : Fn :=
  { name := some "leaf", args := [], result := none, body := [], exprs := [.global 0] }
private def fnMid : Fn :=
  { name := some "mid", args := [], result := none,
    body := [.loop [] [.ifs [] [.call 0 false]]], exprs := [] }
private def fnVs : Fn :=
  { name := some "vs", args := [], result := none, body := [], exprs := [.callResult 1] }
private def fnCs : Fn :=
  { name := some "cs", args := [], result := none, body := [], exprs := [.global 1] }
private def demo : Module :=
  { types := [], consts := [], overrides := [],
    globals := [{ name := some "buf", space := .uniform, binding := some (0, 0), ty := 0 },
                { name := some "other", space := .uniform, binding := some (0, 1), ty := 0 }],
    functions := [fnLeaf, fnMid],
    entries := [{ name := "vs", upper := "VS", stage := .vertex, wg := (0, 0, 0), fn := fnVs },
                { name := "cs", upper := "CS", stage := .compute, wg := (1, 1, 1), fn := fnCs }] }

example : callsEarlierB demo = true := by decide
example : (globalShaderStages demo).getD "buf" = ⟨true, false, false⟩ := by decide
example : (globalShaderStages demo).getD "other" = ⟨false, false, true⟩ := by decide

end WgslVerif
