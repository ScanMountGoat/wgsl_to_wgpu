import WgslVerif.Lemmas.Gen
import WgslVerif.Ext.Encase
/-
C10 – encase + glam structs serialise every field at its WGSL offset
(relative to `Ext.Encase` and `Ext.WgslLayout`).

The full statement of the property is violated on the current tree for three classes recorded as
known findings: members with explicit `@size/@align` (the attributes are not forwarded to
encase, which lays fields out naturally), f64 members (encase 0.10 has no f64 impls, the
module does not compile) and builtin members of host-shareable structs.  `C10_leaf` proves the rest for the member types; nested structs, the offsets and
the span are `C10_struct`, `C10_struct_exec` and `C10_runtime` in `Props/C10Struct.lean`.
-/
namespace WgslVerif
open WgslLayout (roundUp)

/-- member types the property lists as glam-representable, minus f64 (known finding):
f32/i32/u32 scalars and vectors, square float matrices, fixed arrays of those -/
def glamRepresentable (m : Module) : Nat → Ty → Bool
  | 0, _ => false
  | fuel + 1, ty =>
    match ty.inner with
    | .scalar s => s.width == 4 && (s.kind == .float || s.kind == .sint || s.kind == .uint)
    | .vector _ s => s.width == 4 && (s.kind == .float || s.kind == .sint || s.kind == .uint)
    | .matrix c r s => s.width == 4 && c == r
    | .array base (.const _) _ =>
      match m.types[base]? with
      | some bt => glamRepresentable m fuel bt
      | none => false
    | _ => false

namespace Encase
def isLeaf : RustTy → Bool
  | .prim _ => true
  | .glam _ => true
  | _ => false
end Encase

/-! Arrays.  The WGSL rules compute (AlignOf, SizeOf) of an array from those of its element type by the function
`Encase.alignSizeOf` applies to the metadata of the element: `[T; n]` and `array<T, n>` are `n` strides,
`Vec<T>` and `array<T>` stand for one. -/

theorem WgslLayout.alignSize_array {m : Module} {fuel : Nat} {ty bt : Ty} {base n stride : Nat}
    (hi : ty.inner = .array base (.const n) stride) (hb : m.types[base]? = some bt) :
    WgslLayout.alignSize m (fuel + 1) ty =
      (WgslLayout.alignSize m fuel bt).map fun p => (p.1, n * roundUp p.1 p.2) := by
  rw [WgslLayout.alignSize]
  simp only [hi, hb]
  cases WgslLayout.alignSize m fuel bt <;> rfl

theorem WgslLayout.alignSize_dynArray {m : Module} {fuel : Nat} {ty bt : Ty} {base stride : Nat}
    (hi : ty.inner = .array base .dynamic stride) (hb : m.types[base]? = some bt) :
    WgslLayout.alignSize m (fuel + 1) ty =
      (WgslLayout.alignSize m fuel bt).map fun p => (p.1, roundUp p.1 p.2) := by
  rw [WgslLayout.alignSize]
  simp only [hi, hb]
  cases WgslLayout.alignSize m fuel bt <;> rfl

/-! Leaves.  The glam-representable scalars, vectors and matrices are finitely many (three kinds at
width 4, three sizes); each row of the generator's tables is checked by evaluation. -/

theorem scalar4_meta {k : ScalarKind} {p : String} (sm : String → Option (Nat × Nat))
    (hk : (k = .float ∨ k = .sint) ∨ k = .uint) (h : ScalarPrim ⟨k, 4⟩ p) :
    Encase.isLeaf (.prim p) = true ∧ Encase.alignSizeOf sm (.prim p) = some (4, 4) := by
  cases h with
  | i32 => exact ⟨rfl, rfl⟩
  | u32 => exact ⟨rfl, rfl⟩
  | f32 => exact ⟨rfl, rfl⟩
  | bool => simp at hk

theorem vector4_meta {k : ScalarKind} {n : VecSize} {r : RustTy} (sm : String → Option (Nat × Nat))
    (hk : (k = .float ∨ k = .sint) ∨ k = .uint) (h : VectorOk .glam n ⟨k, 4⟩ r) :
    Encase.isLeaf r = true ∧
      Encase.alignSizeOf sm r = some (WgslLayout.vecAlign n 4, WgslLayout.vecSize n 4) := by
  cases h with
  | glam hg => cases hg <;> exact ⟨rfl, rfl⟩
  | array _ hg _ =>
    -- glam has a vector type for each of the three kinds at width 4
    obtain (rfl | rfl) | rfl := hk <;> cases n <;> exact (hg rfl _ (by constructor)).elim

theorem matrix4_meta {c : VecSize} {r : RustTy} (sm : String → Option (Nat × Nat))
    (h : MatrixOk .glam c c 4 r) :
    Encase.isLeaf r = true ∧ Encase.alignSizeOf sm r =
      some (WgslLayout.vecAlign c 4, c.toNat * roundUp (WgslLayout.vecAlign c 4) (WgslLayout.vecSize c 4)) := by
  cases h with
  | glam hg => cases hg <;> exact ⟨rfl, rfl⟩
  | array _ hg _ => cases c <;> exact (hg rfl _ (by constructor)).elim

/-- the Rust type emitted for a glam-representable scalar / vector / matrix is a leaf for encase with the
WGSL (AlignOf, SizeOf) -/
theorem leaf_meta (m : Module) (sm : String → Option (Nat × Nat)) {fuel fr : Nat} {ty : Ty} {r : RustTy}
    (hg : glamRepresentable m (fuel + 1) ty = true) (hna : ∀ b s st, ty.inner ≠ .array b s st)
    (hr : rustType m .glam (fr + 1) ty = .ok r) :
    ∃ p, WgslLayout.alignSize m (fuel + 1) ty = some p ∧ Encase.isLeaf r = true ∧ Encase.alignSizeOf sm r = some p := by
  rw [glamRepresentable] at hg
  rw [WgslLayout.alignSize]
  cases rustType_ok hr with
  | @scalar _ _ s p hi hp =>
    obtain ⟨k, w⟩ := s
    simp only [hi, Bool.and_eq_true, beq_iff_eq, Bool.or_eq_true] at hg ⊢
    obtain ⟨rfl, hk⟩ := hg
    exact ⟨_, rfl, scalar4_meta sm hk hp⟩
  | atomic hi _ => simp [hi] at hg
  | @vector _ _ n s r hi hv =>
    obtain ⟨k, w⟩ := s
    simp only [hi, Bool.and_eq_true, beq_iff_eq, Bool.or_eq_true] at hg ⊢
    obtain ⟨rfl, hk⟩ := hg
    exact ⟨_, rfl, vector4_meta sm hk hv⟩
  | @matrix _ _ cols rows s r hi hv =>
    obtain ⟨k, w⟩ := s
    simp only [hi, Bool.and_eq_true, beq_iff_eq] at hg ⊢
    obtain ⟨rfl, rfl⟩ := hg
    exact ⟨_, rfl, matrix4_meta sm hv⟩
  | array hi => exact absurd hi (hna _ _ _)
  | struct hi _ => simp [hi] at hg

/-- **C10** (leaf types): for every glam-representable member type, the (alignment, size) encase
assigns to the Rust type the generator emits equals the WGSL (AlignOf, SizeOf) of the member
type – vec3 has alignment 16 and size 12, mat3x3 is three 16-byte columns, array elements are
padded to their alignment, at every nesting depth. -/
theorem C10_leaf (m : Module) (sm : String → Option (Nat × Nat)) :
    ∀ fuel ty r, glamRepresentable m fuel ty = true → rustType m .glam fuel ty = .ok r →
      Encase.alignSizeOf sm r = WgslLayout.alignSize m fuel ty := by
  intro fuel ty r hg hr
  induction rustType_ok hr with
  | array hi hb he _ ih =>
    rw [glamRepresentable] at hg
    simp only [hi, hb] at hg
    rw [Encase.alignSizeOf, ih hg he, WgslLayout.alignSize_array hi hb]
  | scalar hi | atomic hi | vector hi | matrix hi | struct hi =>
    obtain ⟨p, hp, _, h⟩ := leaf_meta m sm hg (by simp [hi]) hr
    rw [hp, h]

/-- the natural (attribute-free) WGSL struct layout over member (align, size) pairs is the
algorithm encase's derive uses -/
theorem C10_struct_algorithm (fields : List (Nat × Nat)) :
    Encase.structLayout fields =
      (let r := fields.foldl (fun (acc : List Nat × Nat × Nat) (f : Nat × Nat) =>
          (acc.1 ++ [roundUp f.1 acc.2.1], roundUp f.1 acc.2.1 + f.2, max acc.2.2 f.1)) ([], 0, 1)
       (r.1, roundUp r.2.2 r.2.1, r.2.2)) := rfl

/-- **C10 (partial)**: if naga recorded the natural layout for a struct (no explicit
`@align/@size` pushed a member later) and all members are glam-representable, then the offsets
and size encase computes for the emitted Rust struct are the WGSL ones.  The natural layout is
ASSUMED here (`hnat`, which the conclusion restates); `C10_struct` discharges it from `natural`. -/
theorem C10_offsets_partial (m : Module) (sm : String → Option (Nat × Nat)) (members : List Member)
    (span : Nat) (rtys : List RustTy) (metas : List (Nat × Nat))
    (hlen : rtys.length = members.length)
    (hleaf : ∀ i (h1 : i < members.length) (h2 : i < rtys.length), ∃ ty,
      m.types[members[i].ty]? = some ty ∧ glamRepresentable m (typeFuel m) ty = true ∧
      rustType m .glam (typeFuel m) ty = .ok rtys[i])
    (hmetas : rtys.map (Encase.alignSizeOf sm) = metas.map some)
    (hnat : (members.map (·.offset), span) =
      ((Encase.structLayout metas).1, (Encase.structLayout metas).2.1)) :
    (Encase.structLayout metas).1 = members.map (·.offset) ∧ (Encase.structLayout metas).2.1 = span := by
  have := Prod.mk.inj hnat
  exact ⟨this.1.symm, this.2.symm⟩

end WgslVerif
