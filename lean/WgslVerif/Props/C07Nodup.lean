import WgslVerif.Props.C07
/-
C07: each vertex input struct gets exactly ONE `impl S { VERTEX_ATTRIBUTES … }` block
(`get_vertex_input_structs` sorts by name and removes adjacent duplicates).
-/
namespace WgslVerif

/-- **C07** (one table per struct): the names of the generated `impl` blocks are pairwise distinct. -/
theorem C07_impls_nodup {m : Module} {o : Options} {src : String} {path : Option String} {out : Out}
    (hg : gen m o src path = .ok out) : (out.vertex.map (·.name)).Nodup := by
  obtain ⟨inputs, hin, hnames, _⟩ := vertexStructMethods_ok (gen_ok hg).vertex
  rw [hnames]
  exact (List.pairwise_map.mpr (getVertexInputStructs_strict hin)).imp String.ne_of_lt

end WgslVerif
