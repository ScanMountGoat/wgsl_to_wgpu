import WgslVerif.Props.C08
import WgslVerif.Props.C09
/-
C01, derive obligations: every `#[derive(..)]` the generator writes on a struct is satisfiable by
every field type of that struct (`RustStatic.deriveIssues out = []`), for every module and option set that
meet `DeriveBenign`.  The member types are judged on the WGSL side by the decidable `tyImpl`; excluded are a
`bool` under Pod / ShaderType, a scalar other than `f32` / `u32` / `i32` under ShaderType, an array longer than 32
under serde, a zero-length array under ShaderType, and a host-shareable struct of builtin members only under encase.
-/
namespace WgslVerif
open RustStatic

/-! ### WGSL-side reading of "implements" -/

/-- does the Rust type of a WGSL scalar implement the trait? -/
def scalarImpl (tr : String) (s : Scalar) : Bool :=
  if tr == "bytemuck::Pod" then s.kind != .bool
  else if tr == "encase::ShaderType" then
    s.width == 4 && (s.kind == .float || s.kind == .uint || s.kind == .sint)
  else true

def arrLenImpl (tr : String) (n : Nat) : Bool :=
  if tr == "serde::Serialize" || tr == "serde::Deserialize" then decide (n ≤ 32)
  else if tr == "encase::ShaderType" then n != 0
  else true

/-- WGSL side: the member type's leaves implement `tr` (struct leaves are answered separately) -/
def tyImpl (m : Module) (tr : String) : Nat → Ty → Bool
  | 0, _ => false
  | fuel + 1, ty =>
    match ty.inner with
    | .scalar s => scalarImpl tr s
    | .atomic s => scalarImpl tr s
    | .vector _ s => scalarImpl tr s
    | .matrix _ _ s => scalarImpl tr ⟨.float, s.width⟩
    | .array base (.const n) _ =>
      arrLenImpl tr n && (match m.types[base]? with | some bt => tyImpl m tr fuel bt | none => false)
    | _ => true

/-- the trait ignores struct leaves: `implementsWith (fun _ => true)` -/
abbrev leafImpl (tr : String) (r : RustTy) : Bool := implementsWith (fun _ => true) tr r

/-- `scalarImpl` is `leafImpl` read on the WGSL side -/
theorem scalar_leaf {tr : String} {s : Scalar} {p : String} (hp : ScalarPrim s p) :
    leafImpl tr (.prim p) = scalarImpl tr s := by
  have h1 : (p != "bool") = (s.kind != .bool) := by cases hp <;> rfl
  have h2 : shaderTypeScalars.contains p =
      (s.width == 4 && (s.kind == .float || s.kind == .uint || s.kind == .sint)) := by
    cases hp <;> first | rfl | exact (Bool.and_false _).symm
  simp only [leafImpl, implementsWith, scalarImpl, h1, h2]

theorem glamVec_shaderType {n : VecSize} {s : Scalar} {g : String} (h : GlamVec n s g) :
    shaderTypeGlam.contains g = scalarImpl "encase::ShaderType" s := by
  cases h <;> decide

theorem glamMat_shaderType {rows cols : VecSize} {w : Nat} {g : String} (h : GlamMat rows cols w g) :
    shaderTypeGlam.contains g = scalarImpl "encase::ShaderType" ⟨.float, w⟩ := by
  cases h <;> decide

theorem glam_leaf {tr g : String} (h : tr = "encase::ShaderType" → shaderTypeGlam.contains g = true) :
    leafImpl tr (.glam g) = true := by
  simp only [leafImpl, implementsWith]
  split
  · rename_i htr; exact h (eq_of_beq htr)
  · rfl

/-- `arrLenImpl` is what `leafImpl` asks of an array's length -/
theorem array_leaf {tr : String} {t : RustTy} {n : Nat} :
    leafImpl tr (.array t n) = (arrLenImpl tr n && leafImpl tr t) := by
  simp only [leafImpl, implementsWith, arrLenImpl]
  split
  · rfl
  · split
    · rfl
    · exact (Bool.true_and _).symm

theorem vecSize_toNat_le (n : VecSize) : n.toNat ≤ 32 ∧ n.toNat ≠ 0 := by
  cases n <;> simp [VecSize.toNat]

theorem arrLen_small {tr : String} {n : Nat} (h : n ≤ 32 ∧ n ≠ 0) : arrLenImpl tr n = true := by
  unfold arrLenImpl
  split
  · simp [h.1]
  · split
    · simp [h.2]
    · rfl

theorem vector_leaf {tr : String} {repr : Repr3} {n : VecSize} {s : Scalar} {r : RustTy}
    (h : VectorOk repr n s r) (hi : scalarImpl tr s = true) : leafImpl tr r = true := by
  cases h with
  | array _ _ hp =>
    rw [array_leaf, arrLen_small (vecSize_toNat_le n), scalar_leaf hp, hi]
    rfl
  | glam hg => exact glam_leaf fun e => (glamVec_shaderType hg).trans (e ▸ hi)
  | nalgebra _ => rfl

theorem matrix_leaf {tr : String} {repr : Repr3} {rows cols : VecSize} {w : Nat} {r : RustTy}
    (h : MatrixOk repr rows cols w r) (hi : scalarImpl tr ⟨.float, w⟩ = true) : leafImpl tr r = true := by
  cases h with
  | array _ _ hp =>
    rw [array_leaf, array_leaf, arrLen_small (vecSize_toNat_le rows), arrLen_small (vecSize_toNat_le cols),
      scalar_leaf hp, hi]
    rfl
  | glam hg => exact glam_leaf fun e => (glamMat_shaderType hg).trans (e ▸ hi)
  | nalgebra _ => rfl

/-- **leaf lemma**: the Rust type chosen for a WGSL type implements `tr` on all its non-struct leaves
whenever the WGSL type does (`tyImpl`), in all three representations. -/
theorem rustType_leaf (m : Module) (repr : Repr3) (tr : String) :
    ∀ fuel ty r, rustType m repr fuel ty = .ok r → tyImpl m tr fuel ty = true → leafImpl tr r = true := by
  intro fuel ty r h
  replace h := rustType_ok h
  induction h with
  | scalar hin hp | atomic hin hp =>
    intro hi
    simp only [tyImpl, hin] at hi
    exact (scalar_leaf hp).trans hi
  | vector hin hv =>
    intro hi
    simp only [tyImpl, hin] at hi
    exact vector_leaf hv hi
  | matrix hin hm =>
    intro hi
    simp only [tyImpl, hin] at hi
    exact matrix_leaf hm hi
  | array hin hb _ _ ih =>
    intro hi
    simp only [tyImpl, hin, hb, Bool.and_eq_true] at hi
    rw [array_leaf, hi.1, ih hi.2]
    rfl
  | struct => intro _; rfl

/-- a struct name mentioned by the Rust type of type `h` is the name of a struct type reachable from `h` -/
theorem rustType_named (m : Module) (repr : Repr3) :
    ∀ fuel h ty r, m.types[h]? = some ty → rustType m repr fuel ty = .ok r → ∀ n ∈ namedIn r,
      ∃ h' ty' ms sp, m.types[h']? = some ty' ∧ ty'.inner = .struct ms sp ∧ ty'.name = some n ∧ TyReach m h h' := by
  intro fuel h ty r hty hr
  replace hr := rustType_ok hr
  induction hr generalizing h with
  | scalar | atomic => intro n hn; cases hn
  | vector _ hv => intro n hn; cases hv <;> cases hn
  | matrix _ hm => intro n hn; cases hm <;> cases hn
  | @array _ _ base _ _ _ _ hin hb _ _ ih =>
    intro n hn
    obtain ⟨h', ty', ms, sp, a, b, c, d⟩ := ih base hb n hn
    exact ⟨h', ty', ms, sp, a, b, c, .step (base_typeSucc hty hin) d⟩
  | struct hin hnm =>
    intro n hn
    cases List.mem_singleton.mp hn
    exact ⟨h, _, _, _, hty, hin, hnm, .refl h⟩

/-! ### The benign modules -/

/-- a struct type with a runtime-sized array among its (non-builtin) members -/
def isRtsStruct (m : Module) (h : Nat) : Bool :=
  match m.types[h]? with
  | some ty =>
    match ty.inner with
    | .struct ms _ => structHasRtsArrayMember m (nonBuiltin ms)
    | _ => false
  | none => false

/-- scalar, vector, matrix or atomic -/
def isPlainLeaf (m : Module) (h : Nat) : Bool :=
  match m.types[h]? with
  | some ty =>
    match ty.inner with
    | .scalar _ => true
    | .vector _ _ => true
    | .matrix _ _ _ => true
    | .atomic _ => true
    | _ => false
  | none => false

/-- the type of a member (the element type, for a runtime-sized array member) implements `tr` on its leaves -/
def memberImpl (m : Module) (tr : String) (mem : Member) : Bool :=
  match m.types[mem.ty]? with
  | some ty =>
    match ty.inner with
    | .array base .dynamic _ =>
      (match m.types[base]? with | some bt => tyImpl m tr (typeFuel m) bt | none => false)
    | _ => tyImpl m tr (typeFuel m) ty
  | none => false

/-- The modules / option sets for which the derives are claimed satisfiable.  Every clause is decidable
(`deriveBenignB`) and evaluated on each dumped module; the excluded modules are the recorded C01 classes. -/
structure DeriveBenign (m : Module) (o : Options) : Prop where
  arena : TypeArenaOk m
  /-- no `bool` under Pod / ShaderType, no `f64` (or 8/16-bit scalar) under ShaderType, no array longer
  than 32 under serde, no zero-length array under ShaderType – per emitted struct and derive -/
  leaves : ∀ hd ty ms sp, m.types[hd]? = some ty → ty.inner = .struct ms sp →
    structWanted m (globalVariableTypes m) hd = true → ∀ mem ∈ nonBuiltin ms,
    ∀ tr ∈ deriveList o (structHasRtsArrayMember m (nonBuiltin ms)) ((globalVariableTypes m).contains hd),
      memberImpl m tr mem = true
  /-- WGSL: the members of a struct used only as entry-point parameter are scalars or vectors
  (matrices and atomics pass too) -/
  plain : ∀ hd ty ms sp, m.types[hd]? = some ty → ty.inner = .struct ms sp →
    structWanted m (globalVariableTypes m) hd = true → (globalVariableTypes m).contains hd = false →
    ∀ mem ∈ nonBuiltin ms, isPlainLeaf m mem.ty = true
  /-- WGSL: a struct ending in a runtime-sized array is never a member or an array element -/
  rtsTop : ∀ h s, s ∈ typeSucc m h → isRtsStruct m s = false
  /-- a host-shareable struct under the encase switch has at least one member that is not a builtin (a struct of builtins only
  reachable from a variable is emitted as `pub struct S {}`, which encase's derive refuses: recorded finding) -/
  nonEmpty : ∀ hd ty ms sp, m.types[hd]? = some ty → ty.inner = .struct ms sp →
    structWanted m (globalVariableTypes m) hd = true → (globalVariableTypes m).contains hd = true → o.encase = true →
    nonBuiltin ms ≠ []

/-- a runtime-sized array only takes `Copy` out of the derives -/
theorem deriveListB_sublist (bv bh en se rts hs : Bool) :
    (deriveListB bv bh en se rts hs).Sublist (deriveListB bv bh en se false hs) := by
  cases rts
  · exact .refl _
  · simp [deriveListB]

/-- nothing is reachable from a scalar, vector, matrix or atomic type but itself -/
theorem plainLeaf_reach {m : Module} {h h' : Nat} (hp : isPlainLeaf m h = true) (hr : TyReach m h h') :
    h' = h := by
  cases hr with
  | refl => rfl
  | step hbs _ =>
    cases ht : m.types[h]? with
    | none => simp [isPlainLeaf, ht] at hp
    | some ty =>
      -- the four leaf kinds have no successor (`hbs`); every other kind is no plain leaf (`hp`)
      cases hin : ty.inner <;> simp only [isPlainLeaf, typeSucc, ht, hin, List.not_mem_nil, reduceCtorEq] at hp hbs

/-- `implementsWith` asks `named` about the struct leaves of the type only -/
theorem implementsWith_congr {named named' : String → Bool} {tr : String} :
    ∀ {r : RustTy}, (∀ n ∈ namedIn r, named n = named' n) →
      implementsWith named tr r = implementsWith named' tr r := by
  intro r
  induction r with
  | named n => intro h; exact h n (List.mem_singleton_self n)
  | array t n ih | vec t ih | option t ih => intro h; simp only [implementsWith, ih h]
  | _ => intro _; rfl

/-! ### Nested struct types are emitted with a derive list that covers the outer one -/

/-- a struct type reachable from a member of an emitted struct is emitted itself: both are reachable from a variable,
since the members of a struct that is only an entry-point parameter contain no struct -/
theorem named_emitted {m : Module} {o : Options} {src : String} {path : Option String} {out : Out}
    (hb : DeriveBenign m o) (hg : gen m o src path = .ok out)
    {hd : Nat} {ty : Ty} {ms : List Member} {sp : Nat}
    (hty : m.types[hd]? = some ty) (hi : ty.inner = .struct ms sp)
    (hw : structWanted m (globalVariableTypes m) hd = true)
    {mem : Member} (hmem : mem ∈ nonBuiltin ms)
    {h' : Nat} {ty' : Ty} {ms' : List Member} {sp' : Nat} {n : String}
    (hr : TyReach m mem.ty h') (hty' : m.types[h']? = some ty') (hi' : ty'.inner = .struct ms' sp')
    (hn : ty'.name = some n) :
    (globalVariableTypes m).contains hd = true ∧ (globalVariableTypes m).contains h' = true ∧
      ∃ s, findStruct out.structs n = some s ∧ rustStruct m o (globalVariableTypes m) h' ty' ms' = .ok s := by
  have hsucc := member_typeSucc hty hi (mem_nonBuiltin.mp hmem).1
  have hgv := globalVariableTypes_mem m hb.arena.earlier hb.arena.globalsInRange
  cases hhs : (globalVariableTypes m).contains hd with
  | false =>
    have hpl := hb.plain hd ty ms sp hty hi hw hhs mem hmem
    cases plainLeaf_reach hpl hr
    simp [isPlainLeaf, hty', hi'] at hpl
  | true =>
    obtain ⟨g, hgm, hgr⟩ := (hgv hd).mp (List.contains_iff_mem.mp hhs)
    have hc' := List.contains_iff_mem.mpr ((hgv h').mpr ⟨g, hgm, hgr.trans (.step hsucc hr)⟩)
    exact ⟨rfl, hc', findStruct_wanted hb.arena hg hty' hi' hn (structWanted_of_contains hc')⟩

/-- a struct type reachable from a member of an emitted struct is emitted itself, and derives whatever
the outer struct derives -/
theorem named_ok {m : Module} {o : Options} {src : String} {path : Option String} {out : Out}
    (hb : DeriveBenign m o) (hg : gen m o src path = .ok out)
    {hd : Nat} {ty : Ty} {ms : List Member} {sp : Nat}
    (hty : m.types[hd]? = some ty) (hi : ty.inner = .struct ms sp)
    (hw : structWanted m (globalVariableTypes m) hd = true)
    {mem : Member} (hmem : mem ∈ nonBuiltin ms)
    {h' : Nat} {ty' : Ty} {ms' : List Member} {sp' : Nat} {n : String}
    (hr : TyReach m mem.ty h') (hty' : m.types[h']? = some ty') (hi' : ty'.inner = .struct ms' sp')
    (hn : ty'.name = some n) {rts : Bool} {d : String}
    (hdl : d ∈ deriveList o rts ((globalVariableTypes m).contains hd)) :
    structDerives out.structs d n = true := by
  obtain ⟨hhs, hc', s', hfind, hs'⟩ := named_emitted hb hg hty hi hw hmem hr hty' hi' hn
  -- its derive list: same switches, host-shareable, no runtime-sized array
  obtain ⟨p, hp'⟩ := tyReach_last (member_typeSucc hty hi (mem_nonBuiltin.mp hmem).1) hr
  have hnr := hb.rtsTop p h' hp'
  simp only [isRtsStruct, hty', hi', nonBuiltin] at hnr
  obtain ⟨_, _, hder, _⟩ := rustStruct_proj hs'
  rw [hnr, hc'] at hder
  rw [hhs] at hdl
  simp only [structDerives, hfind, hder]
  exact List.contains_iff_mem.mpr ((deriveListB_sublist ..).subset hdl)

/-- the struct names a field type mentions are struct types reachable from the member's type -/
theorem field_named {m : Module} {o : Options} {mem : Member} {f : RField} (hf : FieldFrom m o mem f) :
    ∀ n ∈ namedIn f.ty, ∃ h' ty' ms sp, m.types[h']? = some ty' ∧ ty'.inner = .struct ms sp ∧
      ty'.name = some n ∧ TyReach m mem.ty h' := by
  obtain ⟨tym, htym, _, hcase⟩ := hf
  intro n hn
  rcases hcase with ⟨base, stride, bt, el, hia, hbt, hel, hfty, _⟩ | ⟨_, hrt, _⟩
  · rw [hfty] at hn
    obtain ⟨h', ty', ms', sp', a, b, c, dd⟩ := rustType_named m o.repr _ base bt el hbt hel n hn
    exact ⟨h', ty', ms', sp', a, b, c, .step (base_typeSucc htym hia) dd⟩
  · exact rustType_named m o.repr _ mem.ty tym f.ty htym hrt n hn

/-- a field implements, on its non-struct leaves, what its member does; a `Vec` field none of the `Copy` traits -/
theorem field_leaf {m : Module} {o : Options} {mem : Member} {f : RField} {tr : String}
    (hf : FieldFrom m o mem f) (hi : memberImpl m tr mem = true)
    (hvec : f.runtime = true → (tr == "Copy" || tr == "bytemuck::Pod" || tr == "bytemuck::Zeroable") = false) :
    leafImpl tr f.ty = true := by
  obtain ⟨tym, htym, _, hcase⟩ := hf
  simp only [memberImpl, htym] at hi
  rcases hcase with ⟨base, stride, bt, el, hia, hbt, hel, hfty, hrt⟩ | ⟨hnd, hrt, _⟩
  · simp only [hia, hbt] at hi
    rw [hfty]
    simp only [leafImpl, implementsWith, hvec hrt]
    exact rustType_leaf m o.repr tr _ bt el hel hi
  · split at hi
    · rename_i b st hc; exact (hnd b st hc).elim
    · exact rustType_leaf m o.repr tr _ tym f.ty hrt hi

/-! ### how an issue list is empty -/

/-- what `deriveIssues` checks, clause by clause -/
theorem deriveIssues_eq_nil {o : Out} : deriveIssues o = [] ↔ ∀ s ∈ o.structs,
    (∀ d ∈ s.derives, ∀ f ∈ s.fields, implements o.structs d f.ty = true) ∧
    ("encase::ShaderType" ∈ s.derives → s.fields ≠ []) ∧
    ("Copy" ∈ s.derives → "Clone" ∈ s.derives) ∧
    ("bytemuck::Pod" ∈ s.derives → s.reprC = true) ∧
    ("bytemuck::Pod" ∈ s.derives → "Copy" ∈ s.derives) ∧
    ("bytemuck::Pod" ∈ s.derives → "bytemuck::Zeroable" ∈ s.derives) ∧
    (∀ f ∈ s.fields.dropLast, f.runtime = false) ∧
    (∀ f ∈ s.fields, f.runtime = true → "encase::ShaderType" ∈ s.derives) := by
  simp only [deriveIssues, List.flatMap_eq_nil_iff, List.append_eq_nil_iff, List.filterMap_eq_nil_iff, unless_none,
    when_none, when_nil, Bool.and_eq_true, Bool.not_eq_true', ← Bool.not_eq_true, List.contains_iff_mem,
    List.isEmpty_iff, not_and, Decidable.not_not, and_assoc, ne_eq]

/-- a struct with a runtime-sized array is emitted under encase only, and never derives `Pod`:
`rustStruct` panics otherwise -/
theorem rustStruct_rts {m : Module} {o : Options} {gvt : List Nat} {hd : Nat} {ty : Ty} {ms : List Member}
    {s : RStruct} (hr : rustStruct m o gvt hd ty ms = .ok s)
    (hrts : structHasRtsArrayMember m (nonBuiltin ms) = true) : o.encase = true ∧ "bytemuck::Pod" ∉ s.derives := by
  obtain ⟨_, _, _, _, _, _, hx1, hx2, hx3, _⟩ := rustStruct_ok hr
  refine ⟨Bool.of_not_eq_false fun he => hx1 ⟨hrts, he⟩, fun h => ?_⟩
  rcases (C09_rustStruct hr).pod.mp h with ⟨a, b⟩ | ⟨a, b⟩
  · exact hx2 ⟨a, b, hrts⟩
  · exact hx3 ⟨a, b, hrts⟩

/-- **C01** (derives): in a successfully generated module, for every benign module and option set,
`Ext.RustStatic` finds no derive issue: every derive on every struct is satisfiable by every field type,
`Pod` comes with `repr(C)`, `Copy`, `Zeroable`, a runtime-sized field is last and carries encase's derive. -/
theorem C01_derives_satisfiable {m : Module} {o : Options} {src : String} {path : Option String} {out : Out}
    (hb : DeriveBenign m o) (hg : gen m o src path = .ok out) : deriveIssues out = [] := by
  rw [deriveIssues_eq_nil]
  intro s hs
  obtain ⟨hd, ty, ms, sp, hin, hw, hi, hr⟩ := structs_mem (gen_ok hg).structs hs
  have hty := mem_indexed.mp hin
  -- the derive list by its table (C09)
  have hD := C09_rustStruct hr
  obtain ⟨_, hf, hder, _⟩ := rustStruct_proj hr
  obtain ⟨hpairs, hlast⟩ := structMembers_ok hf
  have hfrom := hpairs.mem_right
  have hpod : "bytemuck::Pod" ∈ s.derives → structHasRtsArrayMember m (nonBuiltin ms) = false :=
    fun h => Bool.of_not_eq_true fun hrts => (rustStruct_rts hr hrts).2 h
  -- a runtime-sized field comes from a runtime-sized array member, and those occur in host-shareable structs only
  have hrtf : ∀ f ∈ s.fields, f.runtime = true →
      structHasRtsArrayMember m (nonBuiltin ms) = true ∧ (globalVariableTypes m).contains hd = true := by
    intro f hfm hrt
    obtain ⟨mem, hmem, tym, htym, _, hcase⟩ := hfrom f hfm
    rcases hcase with ⟨base, stride, bt, el, hia, _⟩ | ⟨_, _, hnr⟩
    · refine ⟨List.any_eq_true.mpr ⟨mem, hmem, by simp [isDynArray, htym, hia]⟩, Bool.of_not_eq_false fun hc => ?_⟩
      have hpl := hb.plain hd ty ms sp hty hi hw hc mem hmem
      simp [isPlainLeaf, htym, hia] at hpl
    · rw [hnr] at hrt
      cases hrt
  refine ⟨fun d hdm f hfm => ?_, fun hst hnil => ?_, fun _ => hD.always.2.1, fun h => ?_, fun h => hD.copy.mpr (hpod h),
    hD.zeroable.mpr, hlast, fun f hfm hrt => ?_⟩
  · -- every derive is satisfiable by every field type
    obtain ⟨mem, hmem, hff⟩ := hfrom f hfm
    have hdl : d ∈ deriveList o _ _ := hder ▸ hdm
    rw [implements, implementsWith_congr (named' := fun _ => true)]
    · refine field_leaf hff (hb.leaves hd ty ms sp hty hi hw mem hmem d hdl) (fun hrt => ?_)
      -- on a runtime-array struct neither `Copy` nor `Pod` / `Zeroable` is derived
      have hrts := (hrtf f hfm hrt).1
      simp only [Bool.or_eq_false_iff, beq_eq_false_iff_ne]
      refine ⟨⟨?_, ?_⟩, ?_⟩ <;> rintro rfl
      · cases hrts.symm.trans (hD.copy.mp hdm)
      · cases hrts.symm.trans (hpod hdm)
      · cases hrts.symm.trans (hpod (hD.zeroable.mp hdm))
    · intro n hn
      obtain ⟨h', ty', ms', sp', a, b, c, dd⟩ := field_named hff n hn
      exact named_ok hb hg hty hi hw hmem dd a b c hdl
  · -- encase's derive on a struct without fields
    obtain ⟨hen, hhs⟩ := hD.shaderType.mp hst
    exact hb.nonEmpty hd ty ms sp hty hi hw hhs hen
      (List.eq_nil_of_length_eq_zero (hpairs.length_eq.symm.trans (congrArg List.length hnil)))
  · -- `Pod` comes with `repr(C)`
    exact hD.reprC.trans (congrArg (!·) (hpod h))
  · -- a runtime-sized field carries encase's derive
    obtain ⟨hrts, hhs⟩ := hrtf f hfm hrt
    exact hD.shaderType.mpr ⟨(rustStruct_rts hr hrts).1, hhs⟩

/-! ### `DeriveBenign` is decidable: the executable form evaluated on every dumped module -/

def deriveBenignB (m : Module) (o : Options) : Bool :=
  typeArenaOkB m &&
  (indexed m.types).all (fun ht =>
    match ht.2.inner with
    | .struct ms _ =>
      !structWanted m (globalVariableTypes m) ht.1 ||
        ((nonBuiltin ms).all (fun mem =>
          (deriveList o (structHasRtsArrayMember m (nonBuiltin ms)) ((globalVariableTypes m).contains ht.1)).all
            fun tr => memberImpl m tr mem) &&
         ((globalVariableTypes m).contains ht.1 || (nonBuiltin ms).all fun mem => isPlainLeaf m mem.ty) &&
         (!((globalVariableTypes m).contains ht.1 && o.encase) || !(nonBuiltin ms).isEmpty))
    | _ => true) &&
  (List.range m.types.length).all (fun h => (typeSucc m h).all fun s => !isRtsStruct m s)

theorem deriveBenignB_sound (m : Module) (o : Options) (h : deriveBenignB m o = true) : DeriveBenign m o := by
  simp only [deriveBenignB, Bool.and_eq_true, List.all_eq_true, and_assoc] at h
  obtain ⟨ha, hs, hr⟩ := h
  refine { arena := typeArenaOkB_sound m ha, leaves := ?_, plain := ?_, rtsTop := ?_, nonEmpty := ?_ }
  · intro hd ty ms sp hty hi hw mem hmem tr htr
    have := hs (hd, ty) (mem_indexed.mpr hty)
    simp only [hi, hw, Bool.not_true, Bool.false_or, Bool.and_eq_true, List.all_eq_true] at this
    exact this.1.1 mem hmem tr htr
  · intro hd ty ms sp hty hi hw hc mem hmem
    have := hs (hd, ty) (mem_indexed.mpr hty)
    simp only [hi, hw, hc, Bool.not_true, Bool.false_or, Bool.and_eq_true, List.all_eq_true] at this
    exact this.1.2 mem hmem
  · intro p s hsm
    simpa using hr p (List.mem_range.mpr (typeSucc_lt_length hsm)) s hsm
  · intro hd ty ms sp hty hi hw hc he hnil
    have := hs (hd, ty) (mem_indexed.mpr hty)
    simp only [hi, hw, hc, he, hnil, Bool.not_true, Bool.false_or, Bool.and_eq_true] at this
    -- the last conjunct now reads `!([] : List Member).isEmpty = true`
    exact absurd this.2 (by decide)

/-! ### Non-vacuity, and the recorded classes as counterexamples -/

namespace C01DeriveExample

def ty (name : Option String) (inner : TypeInner) : Ty :=
  { name := name, inner := inner, size := 0, laySize := 0, layAlign := 0, snake := "" }

/-- ```wgsl
struct Inner { x: f32, n: vec3<u32> }
struct Outer { pos: vec3<f32>, inner: Inner, arr: array<Inner, 3>, flag: <last member type> }
@group(0) @binding(0) var<uniform> u: Outer;
``` -/
def modl (last : TypeInner) : Module :=
  { types :=
      [ ty none (.scalar ⟨.float, 4⟩),                                                        -- 0
        ty none (.vector .tri ⟨.float, 4⟩),                                                   -- 1
        ty none (.vector .tri ⟨.uint, 4⟩),                                                    -- 2
        ty (some "Inner") (.struct [⟨some "x", 0, none, 0⟩, ⟨some "n", 2, none, 16⟩] 32),     -- 3
        ty none (.array 3 (.const 3) 32),                                                     -- 4
        ty none last,                                                                         -- 5
        ty (some "Outer") (.struct [⟨some "pos", 1, none, 0⟩, ⟨some "inner", 3, none, 16⟩,
                                    ⟨some "arr", 4, none, 48⟩, ⟨some "flag", 5, none, 144⟩] 160) ], -- 6
    globals := [⟨some "u", .uniform, some (0, 0), 6⟩],
    consts := [], overrides := [], functions := [], entries := [] }

def allOn (repr : Repr3) : Options :=
  { bmVertex := true, bmHost := true, encase := true, serde := true, repr := repr, rustfmt := false, validate := false }

/-- classes of the derive issues `Ext.RustStatic` reports on the structs the model emits -/
def issuesOf (last : TypeInner) (o : Options) : Option (List String) :=
  match structs (modl last) o with
  | .ok ss => some ((deriveIssues { (default : Out) with structs := ss }).map (·.cls))
  | .error _ => none

/-- the hypotheses hold for a module with a nested struct, an array of structs and all derive switches on,
in all three representations, and generation succeeds on it -/
example : deriveBenignB (modl (.scalar ⟨.sint, 4⟩)) (allOn .rust) = true := by decide +kernel
example : deriveBenignB (modl (.scalar ⟨.sint, 4⟩)) (allOn .glam) = true := by decide +kernel
example : deriveBenignB (modl (.scalar ⟨.sint, 4⟩)) (allOn .nalgebra) = true := by decide +kernel
example : issuesOf (.scalar ⟨.sint, 4⟩) (allOn .glam) = some [] := by decide +kernel

/-- the recorded classes are excluded by the hypothesis, and `Ext.RustStatic` reports them on the model's output:
`bool` under Pod / ShaderType, `f64` under ShaderType, an array longer than 32 under serde -/
example : deriveBenignB (modl (.scalar ⟨.bool, 1⟩)) (allOn .rust) = false := by decide +kernel
example : issuesOf (.scalar ⟨.bool, 1⟩) (allOn .rust) = some ["derive-unsat", "derive-unsat"] := by decide +kernel
example : deriveBenignB (modl (.vector .bi ⟨.float, 8⟩)) (allOn .glam) = false := by decide +kernel
example : issuesOf (.vector .bi ⟨.float, 8⟩) (allOn .glam) = some ["derive-unsat"] := by decide +kernel
example : deriveBenignB (modl (.array 0 (.const 33) 4)) (allOn .rust) = false := by decide +kernel
example : issuesOf (.array 0 (.const 33) 4) (allOn .rust) = some ["derive-unsat", "derive-unsat"] := by decide +kernel
/-- with the offending switch off, the same modules are benign again -/
example : deriveBenignB (modl (.scalar ⟨.bool, 1⟩))
    { allOn .rust with bmHost := false, encase := false } = true := by decide +kernel
example : deriveBenignB (modl (.array 0 (.const 33) 4)) { allOn .rust with serde := false } = true := by decide +kernel

end C01DeriveExample

end WgslVerif
