import WgslVerif.Lemmas.Gen
import WgslVerif.Props.C03
/-
C13 – Push constant range covers the variable, from offset 0, once.
`Ty.size` is naga's `TypeInner::size`, i.e. the WGSL byte size (validated against
`Ext.WgslLayout` on every dumped module by the C05 check).
-/
namespace WgslVerif

/-- the push-constant variable (WGSL allows at most one per entry point; the first one) -/
def pushVar (m : Module) : Option Global := m.globals.find? fun g => g.space == .pushConstant

/-- the stage set the property prescribes: the stages using the variable, or all stages that
have an entry point when nothing uses it -/
def pushStagesSpec (m : Module) (g : Global) : Stages :=
  match g.name.bind (globalShaderStages m).get? with
  | some s => s
  | none => entryStages m

/-- what the property prescribes: no range and no constant without a push constant; otherwise
exactly one range `0..size` referring to the exported constant, whose value is `pushStagesSpec` -/
def pushExpected (m : Module) : Option (List RPushRange × Option (String × Stages)) :=
  match pushVar m with
  | none => some ([], none)
  | some g =>
    match m.types[g.ty]? with
    | some ty => some ([⟨"PUSH_CONSTANT_STAGES", 0, ty.size⟩], some ("PUSH_CONSTANT_STAGES", pushStagesSpec m g))
    | none => none

def C13Ok (m : Module) (out : Out) : Prop := pushExpected m = some (out.pushRanges, out.pushStages)

instance (m : Module) (out : Out) : Decidable (C13Ok m out) := by unfold C13Ok; infer_instance

/-- **C13**: exactly one range `0..size` referring to the exported stage constant iff a push
constant is declared. -/
theorem C13 {m : Module} {o : Options} {src : String} {path : Option String} {out : Out}
    (hg : gen m o src path = .ok out) : C13Ok m out := by
  obtain ⟨push, hpush, hps, hpr⟩ := (gen_ok hg).push
  unfold pushConstantRangeStages at hpush
  unfold C13Ok pushExpected pushVar pushStagesSpec
  rw [hps, hpr]
  cases hfind : m.globals.find? (fun g => g.space == .pushConstant) with
  | none =>
    rw [hfind] at hpush
    cases hpush
    rfl
  | some g =>
    rw [hfind] at hpush
    simp only at hpush ⊢
    cases hty : m.types[g.ty]? with
    | none =>
      rw [hty] at hpush
      cases hpush
    | some ty =>
      rw [hty] at hpush
      cases hpush
      rfl

theorem pushStagesSpec_eq (m : Module) {g : Global} {n : String} (hn : g.name = some n) :
    pushStagesSpec m g = ((globalShaderStages m).get? n).getD (entryStages m) := by
  simp only [pushStagesSpec, hn, Option.bind_some]
  cases (globalShaderStages m).get? n <;> rfl

/-- **C13** (which stages, used case): if some entry point statically uses the variable, stage
`s` is in the range's stage set iff an entry point of stage `s` statically uses it. -/
theorem C13_stages_used {m : Module} (hv : CallsEarlier m) (g : Global) (n : String)
    (hn : g.name = some n) (hu : ∃ e ∈ m.entries, StaticallyUses m e n) (s : Stage) :
    (pushStagesSpec m g).has s = true ↔ ∃ e ∈ m.entries, e.stage = s ∧ StaticallyUses m e n := by
  obtain ⟨st, hst⟩ := Option.isSome_iff_exists.mp ((C03_present m hv n).mpr hu)
  rw [← C03_visibility m hv n s, pushStagesSpec_eq m hn, StageMap.getD, hst]
  rfl

/-- **C13** (which stages, unused case): if nothing uses the variable the set is all stages that
have an entry point. -/
theorem C13_stages_unused {m : Module} (hv : CallsEarlier m) (g : Global) (n : String)
    (hn : g.name = some n) (hu : ¬ ∃ e ∈ m.entries, StaticallyUses m e n) (s : Stage) :
    (pushStagesSpec m g).has s = true ↔ ∃ e ∈ m.entries, e.stage = s := by
  rw [pushStagesSpec_eq m hn, get?_eq_none_of_unused m hv n hu]
  exact C03_entryStages m s

end WgslVerif
