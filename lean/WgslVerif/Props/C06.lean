import WgslVerif.Props.C08
/-
C06 – Struct fields keep WGSL order, names and element types.

The specification is written without the generator's type mapping: both the WGSL member type and
the emitted Rust type are sent to a common `Shape` (what the type *denotes*: a scalar leaf or a
named struct, under a list of element counts, outermost first), and the property is the equality
of the two lists of (name, shape, runtime flag) – which pins count, order, names, element types,
and the runtime-array marking.

Conventions pinned here
* `vecN<T>` denotes `leaf T [N]`.
* `matCxR<T>` (C columns, R rows) denotes `leaf T [R, C]` in all three representations
  (`[[T; C]; R]`, `nalgebra::SMatrix<T, R, C>`, `glam::MatN` / `glam::DMatN` for C = R = N).
* `array<T, N>` prepends `N`; `atomic<T>` denotes the scalar `T`; a struct denotes `named name []`.
* a member of type `array<T>` (runtime-sized) is specified by the shape of `T` and flag `true`;
  the field has to be `Vec<e>` with `e` denoting that shape and `#[size(runtime)]`.
-/
namespace WgslVerif

/-- what a type denotes: scalar leaf (Rust primitive name) or named struct, under element counts
(outermost first) -/
inductive Shape
  | leaf (prim : String) (dims : List Nat)
  | named (name : String) (dims : List Nat)
  deriving DecidableEq, Repr, Inhabited

/-- an array of `n` elements of the given shape -/
def Shape.push (n : Nat) : Shape → Shape
  | .leaf p d => .leaf p (n :: d)
  | .named s d => .named s (n :: d)

/-- a scalar leaf, and only that -/
def Shape.scalar? : Shape → Option String
  | .leaf p [] => some p
  | _ => none

/-- `glam::<s>`: component type and dimensions -/
def glamShape (s : String) : Option Shape :=
  if s = "Vec2" then some (.leaf "f32" [2])
  else if s = "Vec3" then some (.leaf "f32" [3])
  else if s = "Vec4" then some (.leaf "f32" [4])
  else if s = "DVec2" then some (.leaf "f64" [2])
  else if s = "DVec3" then some (.leaf "f64" [3])
  else if s = "DVec4" then some (.leaf "f64" [4])
  else if s = "UVec2" then some (.leaf "u32" [2])
  else if s = "UVec3" then some (.leaf "u32" [3])
  else if s = "UVec4" then some (.leaf "u32" [4])
  else if s = "IVec2" then some (.leaf "i32" [2])
  else if s = "IVec3" then some (.leaf "i32" [3])
  else if s = "IVec4" then some (.leaf "i32" [4])
  else if s = "Mat2" then some (.leaf "f32" [2, 2])
  else if s = "Mat3" then some (.leaf "f32" [3, 3])
  else if s = "Mat4" then some (.leaf "f32" [4, 4])
  else if s = "DMat2" then some (.leaf "f64" [2, 2])
  else if s = "DMat3" then some (.leaf "f64" [3, 3])
  else if s = "DMat4" then some (.leaf "f64" [4, 4])
  else none

/-- Rust side: the shape a Rust type expression denotes.  `Vec`, `Option` and unclassified types
denote nothing (a `Vec` is accepted at field level only, see `fieldDenote`). -/
def denote : RustTy → Option Shape
  | .prim s => some (.leaf s [])
  | .array t n => (denote t).map (Shape.push n)
  | .glam s => glamShape s
  | .nalgebraV t n => ((denote t).bind Shape.scalar?).map fun p => .leaf p [n]
  | .nalgebraM t r c => ((denote t).bind Shape.scalar?).map fun p => .leaf p [r, c]
  | .named s => some (.named s [])
  | .vec _ => none
  | .option _ => none
  | .unknown _ => none

/-- the Rust primitive that holds a WGSL scalar of the given kind and byte width -/
def primName (s : Scalar) : Option String :=
  match s.kind, s.width with
  | .float, 4 => some "f32"
  | .float, 8 => some "f64"
  | .sint, 4 => some "i32"
  | .uint, 4 => some "u32"
  | .sint, 2 => some "i16"
  | .uint, 2 => some "u16"
  | .sint, 1 => some "i8"
  | .uint, 1 => some "u8"
  | .bool, _ => some "bool"
  | _, _ => none

/-- WGSL side: the shape of a host-representable type (`none` for images, samplers, pointers,
runtime-sized or override-sized arrays inside a type, binding arrays, acceleration structures,
ray queries, and scalars without a Rust primitive).  Array element types are followed by fuel.

Matrices: WGSL matrices are float-valued (naga rejects any other component kind with
`TypeError::MatrixElementNotFloat`); only the byte width of the component is consulted. -/
def shapeOf (m : Module) : Nat → Ty → Option Shape
  | 0, _ => none
  | fuel + 1, ty =>
    match ty.inner with
    | .scalar s => (primName s).map fun p => .leaf p []
    | .atomic s => (primName s).map fun p => .leaf p []
    | .vector n s => (primName s).map fun p => .leaf p [n.toNat]
    | .matrix cols rows s => (primName ⟨.float, s.width⟩).map fun p => .leaf p [rows.toNat, cols.toNat]
    | .array base (.const n) _ => (m.types[base]?).bind fun bt => (shapeOf m fuel bt).map (Shape.push n)
    | .struct _ _ => ty.name.map fun n => .named n []
    | _ => none

/-- enough fuel for every array nesting the arena can hold -/
def shapeFuel (m : Module) : Nat := m.types.length + 1

/-- what a struct member asks of its field: name, shape and runtime flag.  For a member of
runtime-sized array type the shape is that of the *element* type and the flag is set. -/
def fieldSpec (m : Module) (mem : Member) : Option (String × Shape × Bool) :=
  mem.name.bind fun name =>
  (m.types[mem.ty]?).bind fun ty =>
    match ty.inner with
    | .array base .dynamic _ =>
      (m.types[base]?).bind fun bt => (shapeOf m (shapeFuel m) bt).map fun sh => (name, sh, true)
    | _ => (shapeOf m (shapeFuel m) ty).map fun sh => (name, sh, false)

/-- what an emitted field provides: a field marked `#[size(runtime)]` has to be a `Vec<e>` and
provides the shape of `e`; an unmarked field provides the shape of its type (never a `Vec`). -/
def fieldDenote (f : RField) : Option (String × Shape × Bool) :=
  match f.runtime, f.ty with
  | true, .vec e => (denote e).map fun sh => (f.name, sh, true)
  | true, _ => none
  | false, t => (denote t).map fun sh => (f.name, sh, false)

/-- the fields of `s` are the non-builtin members, in order, with the same names, shapes and
runtime flags (and every member has a specification at all) -/
def FieldsOk (m : Module) (members : List Member) (s : RStruct) : Prop :=
  s.fields.map fieldDenote = (members.filter fun mem => !isBuiltinMember mem).map (fieldSpec m) ∧
  ∀ mem ∈ members.filter (fun mem => !isBuiltinMember mem), (fieldSpec m mem).isSome = true

instance (m : Module) (members : List Member) (s : RStruct) : Decidable (FieldsOk m members s) := by
  unfold FieldsOk; infer_instance

/-- the members of the struct type named `name` (first in arena order) -/
def structMembersNamed (m : Module) (name : String) : Option (List Member) :=
  match (indexed m.types).find? (fun ht => structNameOf ht == some name) with
  | some ht =>
    match ht.2.inner with
    | .struct members _ => some members
    | _ => none
  | none => none

/-- an emitted struct has a WGSL struct of the same name, and its fields follow that struct's members -/
def StructOk (m : Module) (s : RStruct) : Prop :=
  match structMembersNamed m s.name with
  | some members => FieldsOk m members s
  | none => False

instance (m : Module) (s : RStruct) : Decidable (StructOk m s) :=
  match h : structMembersNamed m s.name with
  | some members => decidable_of_iff (FieldsOk m members s) (by unfold StructOk; rw [h])
  | none => isFalse (by unfold StructOk; rw [h]; exact id)

def C06Ok (m : Module) (out : Out) : Prop := ∀ s ∈ out.structs, StructOk m s

instance (m : Module) (out : Out) : Decidable (C06Ok m out) := by
  unfold C06Ok; infer_instance

/-! ## The type mapping preserves the denotation -/

/-- `primName` is the table of `rustScalarType` -/
theorem ScalarPrim.primName {s : Scalar} {p : String} (h : ScalarPrim s p) : primName s = some p := by
  cases h <;> rfl

theorem vector_denote {repr : Repr3} {n : VecSize} {s : Scalar} {r : RustTy} (h : VectorOk repr n s r) :
    ∃ p, primName s = some p ∧ denote r = some (.leaf p [n.toNat]) := by
  cases h with
  | array _ _ hp => exact ⟨_, hp.primName, rfl⟩
  | glam hg => cases hg <;> exact ⟨_, rfl, rfl⟩
  | nalgebra hp => exact ⟨_, hp.primName, rfl⟩

theorem matrix_denote {repr : Repr3} {rows cols : VecSize} {w : Nat} {r : RustTy} (h : MatrixOk repr rows cols w r) :
    ∃ p, primName ⟨.float, w⟩ = some p ∧ denote r = some (.leaf p [rows.toNat, cols.toNat]) := by
  cases h with
  | array _ _ hp => exact ⟨_, hp.primName, rfl⟩
  | glam hg => cases hg <;> exact ⟨_, rfl, rfl⟩
  | nalgebra hp => exact ⟨_, hp.primName, rfl⟩

/-- **C06** (types): whenever the generator produces a Rust type for a WGSL type, the WGSL type has
a shape and the Rust type denotes exactly that shape – for all three representations. -/
theorem C06_denote (m : Module) (repr : Repr3) : ∀ fuel ty r, rustType m repr fuel ty = .ok r →
    denote r = shapeOf m fuel ty ∧ (shapeOf m fuel ty).isSome = true := by
  intro fuel ty r h
  replace h := rustType_ok h
  induction h with
  | scalar hi hp => simp [shapeOf, hi, hp.primName, denote]
  | atomic hi hp => simp [shapeOf, hi, hp.primName, denote]
  | vector hi hv =>
    obtain ⟨p, hp, hr⟩ := vector_denote hv
    simp [shapeOf, hi, hp, hr]
  | matrix hi hv =>
    obtain ⟨p, hp, hr⟩ := matrix_denote hv
    simp [shapeOf, hi, hp, hr]
  | array hi hb _ _ ih =>
    obtain ⟨sh, hsh⟩ := Option.isSome_iff_exists.mp ih.2
    simp [shapeOf, hi, hb, denote, ih.1, hsh]
  | struct hi hn => simp [shapeOf, hi, hn, denote]

/-- a field made from a member provides what the member asks for -/
theorem fieldFrom_spec {m : Module} {o : Options} {mem : Member} {f : RField} (h : FieldFrom m o mem f) :
    fieldDenote f = fieldSpec m mem ∧ (fieldSpec m mem).isSome = true := by
  -- a type the generator maps has a shape, which the Rust type denotes (`typeFuel` is `shapeFuel`)
  have key : ∀ {ty r}, rustType m o.repr (typeFuel m) ty = .ok r →
      ∃ sh, shapeOf m (shapeFuel m) ty = some sh ∧ denote r = some sh := by
    intro ty r hr
    obtain ⟨h1, h2⟩ := C06_denote m o.repr _ ty r hr
    obtain ⟨sh, hsh⟩ := Option.isSome_iff_exists.mp h2
    exact ⟨sh, hsh, h1.trans hsh⟩
  obtain ⟨ty, hty, hn, hcase⟩ := h
  unfold fieldSpec
  simp only [hn, hty, Option.bind_some]
  rcases hcase with ⟨base, stride, bt, e, hi, hb, he, hft, hrt⟩ | ⟨hne, ht, hrt⟩
  · obtain ⟨sh, hsh, hd⟩ := key he
    simp [fieldDenote, hi, hb, hft, hrt, hd, hsh]
  · obtain ⟨sh, hsh, hd⟩ := key ht
    split
    · rename_i hi
      exact (hne _ _ hi).elim
    · simp [fieldDenote, hrt, hd, hsh]

/-- **C06** (per struct): the fields `rustStruct` emits are the non-builtin members in declaration
order, under the same names, denoting the members' shapes, with the runtime flag exactly on a
runtime-sized array member. -/
theorem C06_fields {m : Module} {o : Options} {gvt : List Nat} {h : Nat} {t : Ty} {all : List Member}
    {s : RStruct} (hs : rustStruct m o gvt h t all = .ok s) : FieldsOk m all s := by
  have hp := (structMembers_ok (rustStruct_fields hs)).1
  exact ⟨hp.map_eq fun _ _ _ hff => (fieldFrom_spec hff).1,
    fun mem hmem => by obtain ⟨_, _, hff⟩ := hp.mem_left mem hmem; exact (fieldFrom_spec hff).2⟩

/-- **C06**: every struct of a successfully generated module has a WGSL struct of the same name
whose non-builtin members it lists in order, with the same names and element types. -/
theorem C06 {m : Module} {o : Options} {src : String} {path : Option String} {out : Out}
    (hg : gen m o src path = .ok out)
    (hnames : ((indexed m.types).filterMap structNameOf).Nodup) : C06Ok m out := by
  intro s hs
  obtain ⟨hd, ty, ms, sp, hfind, hi, hr⟩ := structs_find (gen_ok hg).structs hnames hs
  unfold StructOk structMembersNamed
  simp only [hfind, hi]
  exact C06_fields hr

theorem C06' {m : Module} {o : Options} {src : String} {path : Option String} {out : Out}
    (ha : TypeArenaOk m) (hg : gen m o src path = .ok out) : C06Ok m out :=
  C06 hg ha.structNamesDistinct

/-! ## Non-vacuity -/

namespace C06Example

def f32 : Scalar := ⟨.float, 4⟩

def ty (name : Option String) (inner : TypeInner) : Ty :=
  { name := name, inner := inner, size := 0, laySize := 0, layAlign := 0, snake := "" }

/-- ```wgsl
struct Inner { x: f32 }
struct Outer {
  pos: vec3<f32>, m: mat2x3<f32>, arr: array<vec4<f32>, 3>, inner: Inner,
  @builtin(vertex_index) idx: u32, tail: array<vec4<f32>>,
}
``` -/
def outerMembers : List Member :=
  [ ⟨some "pos", 1, none, 0⟩, ⟨some "m", 2, none, 16⟩, ⟨some "arr", 4, none, 48⟩,
    ⟨some "inner", 5, none, 96⟩, ⟨some "idx", 8, some (.builtin "VertexIndex"), 100⟩,
    ⟨some "tail", 6, none, 112⟩ ]

def modl : Module :=
  { types :=
      [ ty none (.scalar f32),                                   -- 0
        ty none (.vector .tri f32),                              -- 1
        ty none (.matrix .bi .tri f32),                          -- 2  mat2x3: 2 columns, 3 rows
        ty none (.vector .quad f32),                             -- 3
        ty none (.array 3 (.const 3) 16),                        -- 4
        ty (some "Inner") (.struct [⟨some "x", 0, none, 0⟩] 4),  -- 5
        ty none (.array 3 .dynamic 16),                          -- 6
        ty (some "Outer") (.struct outerMembers 128),            -- 7
        ty none (.scalar ⟨.uint, 4⟩) ],                          -- 8
    globals := [], consts := [], overrides := [], functions := [], entries := [] }

def opts (repr : Repr3) : Options :=
  { bmVertex := false, bmHost := false, encase := true, serde := false, repr := repr,
    rustfmt := false, validate := false }

def outer (fields : List RField) : RStruct :=
  { name := "Outer", reprC := false, derives := [], fields := fields, asserts := [] }

def glamFields : List RField :=
  [ ⟨"pos", .glam "Vec3", false⟩,
    ⟨"m", .array (.array (.prim "f32") 2) 3, false⟩,
    ⟨"arr", .array (.glam "Vec4") 3, false⟩,
    ⟨"inner", .named "Inner", false⟩,
    ⟨"tail", .vec (.glam "Vec4"), true⟩ ]

/-- the model's fields under glam (mat2x3 has no glam type: falls back to `[[f32; 2]; 3]`) -/
example : structMembers modl (opts .glam) (outerMembers.filter fun mem => !isBuiltinMember mem)
    = .ok glamFields := by rfl

example : FieldsOk modl outerMembers (outer glamFields) := by decide +kernel

/-- the specified (name, shape, runtime) list itself -/
example : (outerMembers.filter fun mem => !isBuiltinMember mem).map (fieldSpec modl) =
    [ some ("pos", .leaf "f32" [3], false),
      some ("m", .leaf "f32" [3, 2], false),
      some ("arr", .leaf "f32" [3, 4], false),
      some ("inner", .named "Inner" [], false),
      some ("tail", .leaf "f32" [4], true) ] := by decide +kernel

/-- the same members under all three representations -/
def check (repr : Repr3) : Bool :=
  match rustStruct modl (opts repr) [] 7 (ty (some "Outer") (.struct outerMembers 128)) outerMembers with
  | .ok s => decide (FieldsOk modl outerMembers s) &&
      decide (C06Ok modl { (default : Out) with structs := [s] })
  | .error _ => false

example : check .rust = true := by decide +kernel
example : check .glam = true := by decide +kernel
example : check .nalgebra = true := by decide +kernel

/-- `FieldsOk` rejects: swapped fields, a renamed field, a transposed matrix, a wrong vector
width, a lost runtime flag, a runtime array that is not a `Vec`, a dropped field, an extra field
for the builtin member, a nested struct of another name. -/
example : ¬ FieldsOk modl outerMembers (outer
    [ ⟨"m", .array (.array (.prim "f32") 2) 3, false⟩, ⟨"pos", .glam "Vec3", false⟩,
      ⟨"arr", .array (.glam "Vec4") 3, false⟩, ⟨"inner", .named "Inner", false⟩,
      ⟨"tail", .vec (.glam "Vec4"), true⟩ ]) := by decide +kernel
example : ¬ FieldsOk modl outerMembers (outer
    [ ⟨"position", .glam "Vec3", false⟩, ⟨"m", .array (.array (.prim "f32") 2) 3, false⟩,
      ⟨"arr", .array (.glam "Vec4") 3, false⟩, ⟨"inner", .named "Inner", false⟩,
      ⟨"tail", .vec (.glam "Vec4"), true⟩ ]) := by decide +kernel
example : ¬ FieldsOk modl outerMembers (outer
    [ ⟨"pos", .glam "Vec3", false⟩, ⟨"m", .array (.array (.prim "f32") 3) 2, false⟩,
      ⟨"arr", .array (.glam "Vec4") 3, false⟩, ⟨"inner", .named "Inner", false⟩,
      ⟨"tail", .vec (.glam "Vec4"), true⟩ ]) := by decide +kernel
example : ¬ FieldsOk modl outerMembers (outer
    [ ⟨"pos", .glam "Vec4", false⟩, ⟨"m", .array (.array (.prim "f32") 2) 3, false⟩,
      ⟨"arr", .array (.glam "Vec4") 3, false⟩, ⟨"inner", .named "Inner", false⟩,
      ⟨"tail", .vec (.glam "Vec4"), true⟩ ]) := by decide +kernel
example : ¬ FieldsOk modl outerMembers (outer
    [ ⟨"pos", .glam "Vec3", false⟩, ⟨"m", .array (.array (.prim "f32") 2) 3, false⟩,
      ⟨"arr", .array (.glam "Vec4") 3, false⟩, ⟨"inner", .named "Inner", false⟩,
      ⟨"tail", .vec (.glam "Vec4"), false⟩ ]) := by decide +kernel
example : ¬ FieldsOk modl outerMembers (outer
    [ ⟨"pos", .glam "Vec3", false⟩, ⟨"m", .array (.array (.prim "f32") 2) 3, false⟩,
      ⟨"arr", .array (.glam "Vec4") 3, false⟩, ⟨"inner", .named "Inner", false⟩,
      ⟨"tail", .glam "Vec4", true⟩ ]) := by decide +kernel
example : ¬ FieldsOk modl outerMembers (outer
    [ ⟨"pos", .glam "Vec3", false⟩, ⟨"m", .array (.array (.prim "f32") 2) 3, false⟩,
      ⟨"arr", .array (.glam "Vec4") 3, false⟩, ⟨"inner", .named "Inner", false⟩ ]) := by decide +kernel
example : ¬ FieldsOk modl outerMembers (outer
    [ ⟨"pos", .glam "Vec3", false⟩, ⟨"m", .array (.array (.prim "f32") 2) 3, false⟩,
      ⟨"arr", .array (.glam "Vec4") 3, false⟩, ⟨"inner", .named "Inner", false⟩,
      ⟨"idx", .prim "u32", false⟩, ⟨"tail", .vec (.glam "Vec4"), true⟩ ]) := by decide +kernel
example : ¬ FieldsOk modl outerMembers (outer
    [ ⟨"pos", .glam "Vec3", false⟩, ⟨"m", .array (.array (.prim "f32") 2) 3, false⟩,
      ⟨"arr", .array (.glam "Vec4") 3, false⟩, ⟨"inner", .named "Outer", false⟩,
      ⟨"tail", .vec (.glam "Vec4"), true⟩ ]) := by decide +kernel

/-- the corner documented at `shapeOf`: the generator does not look at a matrix' component kind
(naga only builds float matrices); neither does the specification -/
example : rustType modl .rust 1 (ty none (.matrix .bi .bi ⟨.sint, 4⟩))
    = .ok (.array (.array (.prim "f32") 2) 2) := by rfl
example : shapeOf modl 1 (ty none (.matrix .bi .bi ⟨.sint, 4⟩)) = some (.leaf "f32" [2, 2]) := by decide +kernel

/-- `C06Ok` rejects a struct whose name is no WGSL struct -/
example : ¬ C06Ok modl { (default : Out) with structs := [{ outer glamFields with name := "Other" }] } := by
  decide +kernel

end C06Example

end WgslVerif
