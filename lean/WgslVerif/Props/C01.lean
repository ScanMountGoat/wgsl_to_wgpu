import WgslVerif.Props.C04
import WgslVerif.Props.C08
/-
C01 – Generated module is complete Rust that compiles against wgpu 24.

Partial: "rustc accepts" is decided by rustc (harness `batch check`).  The theorems below carry
the fragments of the emitted program's static semantics that are logic of the generator:
identifier legality on the prettyplease path, pairwise distinctness of the generated item names,
and resolution of nested struct references.  The classes of shaders for which the property is
violated on the current tree are recorded findings (known_findings.json, C01).
-/
namespace WgslVerif

/-- **C01** (identifiers): when generation returns `Ok` through the prettyplease path
(`rustfmt = false`), no WGSL-derived name emitted as a bare identifier is a Rust keyword
(such shaders make `syn::parse_file(..).unwrap()` panic instead – a recorded finding). -/
theorem C01_no_keyword_idents {m : Module} {o : Options} {src : String} {path : Option String} {out : Out}
    (hg : gen m o src path = .ok out) (hr : o.rustfmt = false) :
    ∀ n ∈ emittedIdents out, n ∉ rustKeywords := by
  have hp := gen_ok hg
  intro n hn hk
  apply hp.keywords
  refine ⟨hr, ?_⟩
  simp only [List.any_eq_true, List.contains_iff_mem]
  exact ⟨n, hn, hk⟩

theorem entryConsts_names {m : Module} {o : Options} {src : String} {path : Option String} {out : Out}
    (hg : gen m o src path = .ok out) : out.entryConsts.map (·.1) = m.entries.map fun e => "ENTRY_" ++ e.upper := by
  rw [(gen_ok hg).entryConsts, entryPointConstants, List.map_map]
  rfl

/-- **C01** (`ENTRY_*`): if upper-casing is injective on the entry point names of the shader, the
exported `ENTRY_*` constants are pairwise distinct items. (Entry names differing only in case
violate the premise – a recorded finding.) -/
theorem C01_entry_consts_distinct {m : Module} {o : Options} {src : String} {path : Option String} {out : Out}
    (hg : gen m o src path = .ok out) (hinj : (m.entries.map (·.upper)).Nodup) :
    (out.entryConsts.map (·.1)).Nodup := by
  rw [entryConsts_names hg]
  -- `"ENTRY_" ++ ·` is injective
  refine (List.pairwise_map.mp hinj).map _ fun a b hab e => hab ?_
  have := congrArg String.toList e
  rw [String.toList_append, String.toList_append] at this
  exact String.toList_inj.mp (List.append_cancel_left this)

/-- **C01** (`bind_groups` items): `BindGroupN`, `BindGroupLayoutN`, `LAYOUT_DESCRIPTORN` are
emitted for pairwise different `N`. -/
theorem C01_group_items_distinct {m : Module} {o : Options} {src : String} {path : Option String} {out : Out}
    (hg : gen m o src path = .ok out) : (out.groups.map (·.no)).Nodup := by
  obtain ⟨_, hnos, _⟩ := gen_groups hg
  rw [hnos]
  exact List.nodup_range

/-- **C01** (user structs): no struct item is emitted twice. -/
theorem C01_struct_items_distinct {m : Module} {o : Options} {src : String} {path : Option String} {out : Out}
    (ha : TypeArenaOk m) (hg : gen m o src path = .ok out) : (out.structs.map (·.name)).Nodup :=
  C08_nodup ha hg

/-- **C01** (references resolve): a struct type nested (as member, or array element of a member)
in a host-visible-through-a-variable struct is itself reachable from that variable, hence
emitted – a field of type `Inner` / `[Inner; N]` always finds its `pub struct Inner`. -/
theorem C01_nested_struct_emitted {m : Module} {o : Options} {src : String} {path : Option String} {out : Out}
    (ha : TypeArenaOk m) (hg : gen m o src path = .ok out)
    (outer inner : Nat) (ti : Ty) (ms : List Member) (sp : Nat) (n : String)
    (houter : ∃ g ∈ m.globals, TyReach m g.ty outer)
    (hreach : TyReach m outer inner)
    (hti : m.types[inner]? = some ti) (hst : ti.inner = .struct ms sp) (hn : ti.name = some n) :
    n ∈ out.structs.map (·.name) := by
  rw [C08_mem ha hg n]
  obtain ⟨g, hgm, hr⟩ := houter
  exact ⟨inner, ti, ms, sp, hti, hst, hn, Or.inl ⟨g, hgm, TyReach.trans hr hreach⟩⟩

end WgslVerif
