import WgslVerif.Model.Create
import WgslVerif.Lemmas.Structs
/-
C17 – Parse and validation failures come back as errors; validation only gates.
Partial: naga's parser / validator and the codespan rendering are oracles (parameters here);
the harness (`corrupt`) compares the real calls with naga called directly on corrupted sources.
-/
namespace WgslVerif

variable {PE VE : Type}

/-- a source the front end rejects yields the parse error carrying the front end's diagnostic –
whatever the options, and before anything that could panic is evaluated -/
theorem C17_parse (parse : String → Except PE Module) (validate : Module → Except VE Unit)
    (src : String) (path : Option String) (o : Options) (e : PE) (h : parse src = .error e) :
    create parse validate src path o = .error (.parseError e) := by
  unfold create; rw [h]

/-- with validation enabled, a module the validator rejects yields the validation error – again
before generation (and its panics) is reached -/
theorem C17_validate (parse : String → Except PE Module) (validate : Module → Except VE Unit)
    (src : String) (path : Option String) (o : Options) (m : Module) (e : VE)
    (hp : parse src = .ok m) (hv : o.validate = true) (he : validate m = .error e) :
    create parse validate src path o = .error (.validationError e) := by
  unfold create; rw [hp]; simp only [hv, if_true]; rw [he]

/-- the generator proper does not look at the validation option -/
theorem gen_validate_irrelevant (m : Module) (o : Options) (src : String) (path : Option String) (b : Bool) :
    gen m { o with validate := b } src path = gen m o src path := by
  have hs : structs m { o with validate := b } = structs m o :=
    structsWith_congr (fun _ => rfl) (fun _ _ _ => rustStruct_opts_congr rfl rfl rfl rfl rfl)
  unfold gen
  rw [hs]
  rfl

/-- a source that parses, and validates where validation is on, yields what generation yields -/
theorem create_of_pass {parse : String → Except PE Module} {validate : Module → Except VE Unit}
    {src : String} {path : Option String} {o : Options} {m : Module}
    (hp : parse src = .ok m) (hv : o.validate = true → validate m = .ok ()) :
    create parse validate src path o =
      (match gen m o src path with | .ok out => .ok out | .error e => .error (.generation e)) := by
  unfold create
  rw [hp]
  dsimp only
  split
  · rename_i h; rw [hv h]; rfl
  · rfl

/-- for sources that pass, enabling validation changes nothing in the result -/
theorem C17_gate (parse : String → Except PE Module) (validate : Module → Except VE Unit)
    (src : String) (path : Option String) (o : Options) (m : Module)
    (hp : parse src = .ok m) (hv : validate m = .ok ()) :
    create parse validate src path { o with validate := true } =
    create parse validate src path { o with validate := false } := by
  rw [create_of_pass hp (fun _ => hv), create_of_pass hp (fun _ => hv),
    gen_validate_irrelevant m o src path true, gen_validate_irrelevant m o src path false]

/-- the only outcomes are: parse error, validation error (only with validation on), or what
generation itself yields -/
theorem C17_total (parse : String → Except PE Module) (validate : Module → Except VE Unit)
    (src : String) (path : Option String) (o : Options) :
    (∃ e, parse src = .error e ∧ create parse validate src path o = .error (.parseError e)) ∨
    (∃ m e, parse src = .ok m ∧ o.validate = true ∧ validate m = .error e ∧
      create parse validate src path o = .error (.validationError e)) ∨
    (∃ m, parse src = .ok m ∧ (o.validate = true → validate m = .ok ()) ∧
      create parse validate src path o =
        (match gen m o src path with | .ok out => .ok out | .error e => .error (.generation e))) := by
  cases hp : parse src with
  | error e => exact .inl ⟨e, rfl, C17_parse parse validate src path o e hp⟩
  | ok m =>
    refine .inr ?_
    by_cases hv : o.validate = true
    · cases he : validate m with
      | error e => exact .inl ⟨m, e, rfl, hv, he, C17_validate parse validate src path o m e hp hv he⟩
      | ok u => exact .inr ⟨m, rfl, fun _ => he, create_of_pass hp fun _ => he⟩
    · exact .inr ⟨m, rfl, fun h => absurd h hv, create_of_pass hp fun h => absurd h hv⟩

end WgslVerif
