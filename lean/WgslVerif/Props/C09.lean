import WgslVerif.Lemmas.Gen
/-
C09 – Derives and repr follow the write options exactly.

`DerivesOk o hs rts s` is the decision table of the property, stated as membership facts about
the emitted derive list (it does not mention how the list is built).  `hs` = the struct is
reachable from a module-scope variable; `rts` = it has a runtime-sized array member
(necessarily the last one when its fields can be typed, `structMembersFrom_ok`).
-/
namespace WgslVerif

def knownDerives : List String :=
  ["Debug", "Copy", "Clone", "PartialEq", "bytemuck::Pod", "bytemuck::Zeroable", "encase::ShaderType",
   "serde::Serialize", "serde::Deserialize"]

/-- the property's decision table for one emitted struct -/
structure DerivesOk (o : Options) (hs rts : Bool) (s : RStruct) : Prop where
  always : "Debug" ∈ s.derives ∧ "Clone" ∈ s.derives ∧ "PartialEq" ∈ s.derives
  copy : "Copy" ∈ s.derives ↔ rts = false
  reprC : s.reprC = !rts
  pod : "bytemuck::Pod" ∈ s.derives ↔ ((o.bmVertex = true ∧ hs = false) ∨ (o.bmHost = true ∧ hs = true))
  zeroable : "bytemuck::Zeroable" ∈ s.derives ↔ "bytemuck::Pod" ∈ s.derives
  shaderType : "encase::ShaderType" ∈ s.derives ↔ (o.encase = true ∧ hs = true)
  serialize : "serde::Serialize" ∈ s.derives ↔ o.serde = true
  deserialize : "serde::Deserialize" ∈ s.derives ↔ o.serde = true
  asserts : s.asserts ≠ [] ↔ (o.bmHost = true ∧ hs = true)
  closed : ∀ d ∈ s.derives, d ∈ knownDerives
  nodup : s.derives.Nodup

instance (o : Options) (hs rts : Bool) (s : RStruct) : Decidable (DerivesOk o hs rts s) :=
  decidable_of_iff (_ ∧ _ ∧ _ ∧ _ ∧ _ ∧ _ ∧ _ ∧ _ ∧ _ ∧ _ ∧ _)
    ⟨fun ⟨a, b, c, d, e, f, g, h, i, j, k⟩ => ⟨a, b, c, d, e, f, g, h, i, j, k⟩,
     fun ⟨a, b, c, d, e, f, g, h, i, j, k⟩ => ⟨a, b, c, d, e, f, g, h, i, j, k⟩⟩

/-- the table, as a closed statement about the derive list alone -/
def TableOk (bv bh en se hs rts : Bool) (ds : List String) : Prop :=
  ("Debug" ∈ ds ∧ "Clone" ∈ ds ∧ "PartialEq" ∈ ds) ∧
  ("Copy" ∈ ds ↔ rts = false) ∧
  ("bytemuck::Pod" ∈ ds ↔ ((bv = true ∧ hs = false) ∨ (bh = true ∧ hs = true))) ∧
  ("bytemuck::Zeroable" ∈ ds ↔ "bytemuck::Pod" ∈ ds) ∧
  ("encase::ShaderType" ∈ ds ↔ (en = true ∧ hs = true)) ∧
  ("serde::Serialize" ∈ ds ↔ se = true) ∧
  ("serde::Deserialize" ∈ ds ↔ se = true) ∧
  (∀ d ∈ ds, d ∈ knownDerives) ∧ ds.Nodup

instance (bv bh en se hs rts : Bool) (ds : List String) : Decidable (TableOk bv bh en se hs rts ds) := by
  unfold TableOk; infer_instance

/-- all 64 combinations of the four switches, host-shareability and a runtime-sized array member
(`Pod` is never listed twice: the conditions of the two bytemuck switches are exclusive in `hs`) -/
theorem deriveListB_table : ∀ bv bh en se hs rts : Bool,
    TableOk bv bh en se hs rts (deriveListB bv bh en se rts hs) := by
  -- a finite table of 64 rows, evaluated by the kernel
  decide +kernel

/-- **C09** (per struct): every struct `rustStruct` emits obeys the decision table, with
`hs` = membership in the closure of the module-scope variable types and `rts` = some member is a
runtime-sized array.  C01's derive clause reads its derive-list facts off this theorem. -/
theorem C09_rustStruct {m : Module} {o : Options} {gvt : List Nat} {h : Nat} {t : Ty}
    {all : List Member} {s : RStruct} (hs : rustStruct m o gvt h t all = .ok s) :
    DerivesOk o (gvt.contains h)
      (structHasRtsArrayMember m (all.filter fun mem => !isBuiltinMember mem)) s := by
  obtain ⟨name, fields, offs, _, _, _, _, _, _, e⟩ := rustStruct_ok hs
  subst e
  obtain ⟨halways, hcopy, hpod, hzero, hshader, hser, hde, hclosed, hnodup⟩ :=
    deriveListB_table o.bmVertex o.bmHost o.encase o.serde
      (gvt.contains h) (structHasRtsArrayMember m (all.filter fun mem => !isBuiltinMember mem))
  exact {
    always := halways, copy := hcopy, reprC := rfl, pod := hpod, zeroable := hzero, shaderType := hshader
    serialize := hser, deserialize := hde, closed := hclosed, nodup := hnodup
    asserts := by cases o.bmHost <;> cases gvt.contains h <;> simp }

/-- **C09**: every struct in a successfully generated module obeys the decision table. -/
theorem C09 {m : Module} {o : Options} {src : String} {path : Option String} {out : Out}
    (hg : gen m o src path = .ok out) {s : RStruct} (hs : s ∈ out.structs) :
    ∃ hd ty members span, m.types[hd]? = some ty ∧ ty.inner = .struct members span ∧
      ty.name = some s.name ∧
      DerivesOk o ((globalVariableTypes m).contains hd)
        (structHasRtsArrayMember m (members.filter fun mem => !isBuiltinMember mem)) s := by
  obtain ⟨hd, ty, members, span, hin, _, hi, hr⟩ := structs_mem (gen_ok hg).structs hs
  exact ⟨hd, ty, members, span, mem_indexed.mp hin, hi, (rustStruct_name hr), C09_rustStruct hr⟩

/-- **C09** (no option changes any other part): two successful generations of the same module
under different options agree on everything except the struct section. -/
theorem C09_noninterference {m : Module} {o o' : Options} {src : String} {path : Option String}
    {out out' : Out} (hg : gen m o src path = .ok out) (hg' : gen m o' src path = .ok out') :
    { out with structs := [] } = { out' with structs := [] } := by
  rw [gen_ok_agree hg hg', (gen_ok hg').source, ← (gen_ok hg).source]

/-- `C09_panics` without `hnames`: when the fields can be typed every member has a name, so the offset checks are built -/
theorem rustStruct_panics {m : Module} {o : Options} {gvt : List Nat} {h : Nat} {t : Ty} {all : List Member}
    {name : String} {fields : List RField}
    (hn : t.name = some name)
    (hf : structMembers m o (all.filter fun mem => !isBuiltinMember mem) = .ok fields) :
    (∃ tag, rustStruct m o gvt h t all = .error (.panic tag)) ↔
      (structHasRtsArrayMember m (all.filter fun mem => !isBuiltinMember mem) = true ∧
        (o.encase = false ∨ (o.bmVertex = true ∧ gvt.contains h = false) ∨
          (o.bmHost = true ∧ gvt.contains h = true))) := by
  obtain ⟨offs, ho⟩ := mapM_total (l := all.filter fun mem => !isBuiltinMember mem) (f := fun mem => do
      let n ← unwrapName "member-name" mem.name
      pure (RAssert.offset name n mem.offset ("offset of " ++ name ++ "." ++ n ++ " does not match WGSL")))
    fun mem hmem => by
      obtain ⟨f, _, hff⟩ := (structMembers_ok hf).1.mem_left mem hmem
      rw [hff.name]
      exact ⟨_, rfl⟩
  unfold rustStruct
  rw [unwrapName_ok.mpr hn]
  simp only [bind, Except.bind] at ho ⊢
  simp only [ho, hf]
  generalize gvt.contains h = hb
  -- without a runtime-sized array no guard fires; with one, the sixteen switch settings are checked
  cases structHasRtsArrayMember m (all.filter fun mem => !isBuiltinMember mem)
  · simp [pure, Except.pure]
  · cases hb <;> cases o.encase <;> cases o.bmVertex <;> cases o.bmHost <;> simp [pure, Except.pure]

/-- **C09** (documented panics): `rustStruct` fails with the runtime-array panics exactly in the
documented combinations (given that its fields can be typed; `hnames` already follows from `hf`). -/
theorem C09_panics {m : Module} {o : Options} {gvt : List Nat} {h : Nat} {t : Ty} {all : List Member}
    {name : String} {fields : List RField}
    (hn : t.name = some name)
    (hnames : ∀ mem ∈ all.filter (fun mem => !isBuiltinMember mem), mem.name.isSome = true)
    (hf : structMembers m o (all.filter fun mem => !isBuiltinMember mem) = .ok fields) :
    (∃ tag, rustStruct m o gvt h t all = .error (.panic tag)) ↔
      (structHasRtsArrayMember m (all.filter fun mem => !isBuiltinMember mem) = true ∧
        (o.encase = false ∨ (o.bmVertex = true ∧ gvt.contains h = false) ∨
          (o.bmHost = true ∧ gvt.contains h = true))) :=
  rustStruct_panics hn hf

end WgslVerif
