import WgslVerif.Model.Create
/-
C19 – Formatter choice and formatter failure never change the program.

`ProcEnv` lists the operating system's answers to `pretty_print_rustfmt`; which fault produces
which answer (EPIPE when the child exits before a write larger than the pipe buffer, …) is OS
behaviour and is established by the `faults` harness with stub formatters. Partial: token
preservation by prettyplease/rustfmt is checked per case, not proved.
-/
namespace WgslVerif

/-- the formatter did its job: started, took the input, exited successfully, printed UTF-8 -/
def ProcEnv.Succeeded (env : ProcEnv) (out : String) : Prop :=
  env.spawn = true ∧ env.write = true ∧ env.wait = some (true, some out)

/-- every fault the property lists: absent (spawn fails), exit ≠ 0 after reading, exit ≠ 0 /
killed before reading (write fails), killed (wait reports failure), prints nothing -/
def ProcEnv.Failed (env : ProcEnv) : Prop :=
  env.spawn = false ∨ env.write = false ∨ env.wait = none ∨
  (∃ o, env.wait = some (false, o)) ∨ env.wait = some (true, none) ∨ env.wait = some (true, some "")

/-- what the property demands of `pretty_print_rustfmt` -/
def C19Ok (f : ProcEnv → String → FmtOutcome) : Prop :=
  (∀ env raw, env.Failed → f env raw = .returned raw) ∧
  (∀ env raw out, env.Succeeded out → out ≠ "" → f env raw = .returned out) ∧
  (∀ env raw, ∀ why, f env raw ≠ .panicked why)

/-- the function returns `raw` unless every interaction succeeded and the formatter printed something -/
theorem prettyPrintRustfmt_cases (env : ProcEnv) (raw : String) :
    prettyPrintRustfmt env raw = .returned raw ∨
    ∃ out, env.Succeeded out ∧ out ≠ "" ∧ prettyPrintRustfmt env raw = .returned out := by
  unfold prettyPrintRustfmt ProcEnv.Succeeded
  rcases env with ⟨_ | _, _ | _, _ | ⟨_ | _, _ | out⟩⟩ <;> try exact .inl rfl
  by_cases hne : out = ""
  · exact .inl (by simp [hne])
  · exact .inr ⟨out, ⟨rfl, rfl, rfl⟩, hne, by simp [hne]⟩

/-- **C19** (faults): every fault the property lists makes the function return the unformatted
program. -/
theorem C19_faults (env : ProcEnv) (raw : String) (h : env.Failed) :
    prettyPrintRustfmt env raw = .returned raw := by
  rcases prettyPrintRustfmt_cases env raw with h' | ⟨out, ⟨h1, h2, h3⟩, hne, _⟩
  · exact h'
  · rw [ProcEnv.Failed, h1, h2, h3] at h
    simp [hne] at h

/-- **C19** (success): a formatter that ran to completion and printed something is believed. -/
theorem C19_ok (env : ProcEnv) (raw out : String) (h : env.Succeeded out) (hne : out ≠ "") :
    prettyPrintRustfmt env raw = .returned out := by
  obtain ⟨h1, h2, h3⟩ := h
  unfold prettyPrintRustfmt; simp [h1, h2, h3, hne]

/-- **C19** (total): whatever the operating system answers, the function never panics. -/
theorem C19_total (env : ProcEnv) (raw why : String) : prettyPrintRustfmt env raw ≠ .panicked why := by
  rcases prettyPrintRustfmt_cases env raw with h | ⟨_, _, _, h⟩ <;> rw [h] <;> exact FmtOutcome.noConfusion

/-- **C19**: `pretty_print_rustfmt` returns the unformatted text on every fault, the formatter's output when
everything succeeded, and never panics. -/
theorem C19 : C19Ok prettyPrintRustfmt :=
  ⟨C19_faults, C19_ok, C19_total⟩

/-- `Legacy.prettyPrintRustfmt` is `pretty_print_rustfmt` as it stands in /repo before the repair this check led to:
it panics when the formatter is gone before its input is written (`write_all` fails with EPIPE), and returns the
empty string when the formatter succeeds printing nothing. -/
theorem C19_legacy_counterexample :
    Legacy.prettyPrintRustfmt { spawn := true, write := false, wait := some (false, some "") } "fn main(){}"
      = .panicked "write_all(..).unwrap()" ∧
    Legacy.prettyPrintRustfmt { spawn := true, write := true, wait := some (true, some "") } "fn main(){}"
      = .returned "" := by decide

/-- non-vacuity: a formatter killed before reading is a `Failed` environment -/
example : ({ spawn := true, write := false, wait := some (false, some "") } : ProcEnv).Failed := Or.inr (Or.inl rfl)

end WgslVerif
