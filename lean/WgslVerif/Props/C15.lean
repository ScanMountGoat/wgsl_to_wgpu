import WgslVerif.Lemmas.Gen
import WgslVerif.Lemmas.Consts
/-
C15 – Module constants are exported with the WGSL type and exact value.
Partial: the decimal text of a float literal is produced by Rust's `Display` and read back by
rustc; the model carries the value as IEEE bits (the extractor re-parses every emitted literal
with Rust's own parser and reports bits).
-/
namespace WgslVerif

/-- the Rust primitive corresponding to the literal's WGSL type -/
def primOfLit : Lit → String
  | .f64 _ => "f64" | .f32 _ => "f32" | .u32 _ => "u32" | .i32 _ => "i32" | .u64 _ => "u64"
  | .i64 _ => "i64" | .bool _ => "bool" | .abstractInt _ => "i64" | .abstractFloat _ => "f64"

/-- the exact value of the literal, typed by `primOfLit` -/
def valueOfLit : Lit → LitVal
  | .f64 b => .fval b "f64" | .f32 b => .fval b "f32" | .u32 n => .ival n "u32" | .i32 n => .ival n "i32"
  | .u64 n => .ival n "u64" | .i64 n => .ival n "i64" | .bool b => .bval b
  | .abstractInt n => .ival n "i64" | .abstractFloat b => .fval b "f64"

/-- what the property prescribes for one WGSL constant -/
def specConst (c : Const) : Option RConst :=
  match c.name, c.init with
  | some n, some l => some { name := n, ty := primOfLit l, val := valueOfLit l }
  | _, _ => none

/-- the exported constants are exactly the named scalar constants, in order, each with the type
of its literal and its exact value -/
def C15Ok (m : Module) (out : Out) : Prop := out.consts = m.consts.filterMap specConst

instance (m : Module) (out : Out) : Decidable (C15Ok m out) := by unfold C15Ok; infer_instance

theorem constTypeAndValue_spec (l : Lit) : constTypeAndValue l = (primOfLit l, valueOfLit l) := by
  cases l <;> rfl

/-- **C15**: the exported constants are exactly the named scalar constants, in declaration order,
each with the Rust type of its literal and its exact value. -/
theorem C15 {m : Module} {o : Options} {src : String} {path : Option String} {out : Out}
    (hg : gen m o src path = .ok out) : C15Ok m out := by
  unfold C15Ok
  rw [(gen_ok hg).consts]
  unfold consts specConst
  simp only [constTypeAndValue_spec]
  rfl

/-- `consts` as it stands in /repo before the commit "fix: export f64 constants with type f64" (a finding of this
check): it chooses the declared type `f32` for an `f64` literal, so `const A: f64 = 1.5lf` is exported as
`pub const A: f32 = 1.5f64;`. -/
def Legacy.constTypeAndValue : Lit → String × LitVal
  | .f64 b => ("f32", .fval b "f64")
  | l => WgslVerif.constTypeAndValue l

theorem C15_legacy_counterexample :
    Legacy.constTypeAndValue (.f64 4609434218613702656) ≠
      (primOfLit (.f64 4609434218613702656), valueOfLit (.f64 4609434218613702656)) := by decide

/-- **C15** (skipped, never mis-emitted): a constant without a scalar literal value is not exported. -/
theorem C15_skip {m : Module} {o : Options} {src : String} {path : Option String} {out : Out}
    (hg : gen m o src path = .ok out) (rc : RConst) (hrc : rc ∈ out.consts) :
    ∃ c ∈ m.consts, c.name = some rc.name ∧ c.init.isSome = true := by
  obtain ⟨c, hc, l, hn, hi, _⟩ := consts_mem ((gen_ok hg).consts ▸ hrc)
  exact ⟨c, hc, hn, Option.isSome_iff_exists.mpr ⟨l, hi⟩⟩

end WgslVerif
