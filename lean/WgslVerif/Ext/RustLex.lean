/-
Ext.RustLex – executable transcription of the Rust lexer's (non-raw) string-literal semantics
(`\n \r \t \\ \0 \' \" \xHH \u{…}`; a bare `"` or CR is not allowed inside), the relation
`EscOf s raw` = "raw is s with every character written verbatim (where allowed) or as one of its
legal escapes", and the round-trip theorem for ALL strings and ALL escape choices.
Validated against `syn::LitStr::value()` on every emitted literal (harness) and rustc (batch).
-/
namespace WgslVerif
namespace RustLex

def hexVal (c : Char) : Option Nat :=
  if '0' ≤ c ∧ c ≤ '9' then some (c.toNat - '0'.toNat)
  else if 'a' ≤ c ∧ c ≤ 'f' then some (c.toNat - 'a'.toNat + 10)
  else if 'A' ≤ c ∧ c ≤ 'F' then some (c.toNat - 'A'.toNat + 10)
  else none

inductive St where
  | normal
  | bs                       -- after backslash
  | x1                       -- after \x
  | x2 (hi : Nat)            -- after \xH
  | u0                       -- after \u, expecting {
  | u (v : Nat) (n : Nat)    -- inside \u{...}: value so far, digits so far

def mkChar (v : Nat) : Option Char :=
  if v.isValidChar then some (Char.ofNat v) else none

/-- contents of a (non-raw) string literal → value; `none` = not a valid literal body -/
def unesc : St → List Char → Option (List Char)
  | .normal, [] => some []
  | _, [] => none
  | .normal, c :: r =>
      if c = '\\' then unesc .bs r
      else if c = '"' ∨ c = '\r' then none
      else (unesc .normal r).map (c :: ·)
  | .bs, c :: r =>
      if c = 'n' then (unesc .normal r).map ('\n' :: ·)
      else if c = 'r' then (unesc .normal r).map ('\r' :: ·)
      else if c = 't' then (unesc .normal r).map ('\t' :: ·)
      else if c = '\\' then (unesc .normal r).map ('\\' :: ·)
      else if c = '0' then (unesc .normal r).map ('\x00' :: ·)
      else if c = '\'' then (unesc .normal r).map ('\'' :: ·)
      else if c = '"' then (unesc .normal r).map ('"' :: ·)
      else if c = 'x' then unesc .x1 r
      else if c = 'u' then unesc .u0 r
      else none
  | .x1, c :: r => match hexVal c with
      | some h => if h < 8 then unesc (.x2 h) r else none
      | none => none
  | .x2 hi, c :: r => match hexVal c with
      | some lo => (unesc .normal r).map (Char.ofNat (hi * 16 + lo) :: ·)
      | none => none
  | .u0, c :: r => if c = '{' then unesc (.u 0 0) r else none
  | .u v n, c :: r =>
      if c = '}' then
        if n = 0 then none else match mkChar v with
          | some ch => (unesc .normal r).map (ch :: ·)
          | none => none
      else if c = '_' then unesc (.u v n) r
      else match hexVal c with
        | some d => if n < 6 then unesc (.u (v * 16 + d) (n + 1)) r else none
        | none => none

/-- value of a run of hex digits (most significant first), as the `\u{}` state accumulates it -/
def hexRun : Nat → List Char → Option Nat
  | v, [] => some v
  | v, c :: r => match hexVal c with
      | some d => hexRun (v * 16 + d) r
      | none => none

/-- one character's legal encodings inside a string literal -/
inductive EscChar : Char → List Char → Prop
  | verbatim (c) : c ≠ '\\' → c ≠ '"' → c ≠ '\r' → EscChar c [c]
  | nl : EscChar '\n' ['\\', 'n']
  | cr : EscChar '\r' ['\\', 'r']
  | tab : EscChar '\t' ['\\', 't']
  | bsl : EscChar '\\' ['\\', '\\']
  | nul : EscChar '\x00' ['\\', '0']
  | sq : EscChar '\'' ['\\', '\'']
  | dq : EscChar '"' ['\\', '"']
  | hex (h l hi lo) : hexVal h = some hi → hexVal l = some lo → hi < 8 →
      EscChar (Char.ofNat (hi * 16 + lo)) ['\\', 'x', h, l]
  | uni (c : Char) (ds : List Char) : ds ≠ [] → ds.length ≤ 6 → hexRun 0 ds = some c.toNat →
      EscChar c (['\\', 'u', '{'] ++ ds ++ ['}'])

inductive EscOf : List Char → List Char → Prop
  | nil : EscOf [] []
  | cons {c s e raw} : EscChar c e → EscOf s raw → EscOf (c :: s) (e ++ raw)

theorem unesc_u_digit {d : Char} {x : Nat} (hd : hexVal d = some x) (v : Nat) {n : Nat} (hn : n < 6)
    (r : List Char) : unesc (.u v n) (d :: r) = unesc (.u (v * 16 + x) (n + 1)) r := by
  have h1 : d ≠ '}' := fun e => by rw [e] at hd; cases hd
  have h2 : d ≠ '_' := fun e => by rw [e] at hd; cases hd
  simp only [unesc, h1, h2, hd, hn, if_false, if_true]

/-- inside `\u{…}`: the remaining digits `ds` and the closing brace yield the character the whole
run denotes; `n` counts the digits read so far (at most six in all, at least one) -/
theorem unesc_u_run (c : Char) (r : List Char) :
    ∀ (ds : List Char) (v n : Nat), hexRun v ds = some c.toNat → n + ds.length ≤ 6 → n + ds.length ≠ 0 →
      unesc (.u v n) (ds ++ '}' :: r) = (unesc .normal r).map (c :: ·)
  | [], v, n, h, _, hn => by
    cases h
    have hv : c.toNat.isValidChar := c.valid
    rw [List.length_nil, Nat.add_zero] at hn
    simp only [List.nil_append, unesc, mkChar, hn, hv, if_true, if_false, Char.ofNat_toNat]
  | d :: ds, v, n, h, hl, _ => by
    rw [hexRun] at h
    rw [List.length_cons] at hl
    cases hd : hexVal d with
    | none => rw [hd] at h; cases h
    | some x =>
      rw [hd] at h
      rw [List.cons_append, unesc_u_digit hd v (by omega)]
      exact unesc_u_run c r ds _ _ h (by omega) (by omega)

/-- one character, written in any of its legal encodings, is read back as that character -/
theorem unesc_char {c e} (h : EscChar c e) (r : List Char) :
    unesc .normal (e ++ r) = (unesc .normal r).map (c :: ·) := by
  cases h with
  | verbatim c h1 h2 h3 => simp [unesc, h1, h2, h3]
  | hex h l hi lo h1 h2 h3 => simp [unesc, h1, h2, h3]
  | uni c ds hne hlen hrun =>
    rw [List.append_assoc, List.append_assoc]
    -- the three transitions on `\`, `u`, `{` are evaluated by `show`
    show unesc (.u 0 0) (ds ++ '}' :: r) = _
    exact unesc_u_run c r ds 0 0 hrun (by omega) (by simpa using hne)
  | _ => simp [unesc]

/-- **C16** (round trip): whatever legal escapes were chosen character by character, unescaping gives the string back -/
theorem unesc_of_esc {s raw} (h : EscOf s raw) : unesc .normal raw = some s := by
  induction h with
  | nil => rfl
  | cons hc _ ih => rw [unesc_char hc, ih]; rfl

/-- the value of a string-literal TOKEN (with its surrounding quotes); `none` = not a valid literal -/
def unescapeToken (tok : String) : Option String :=
  match tok.toList with
  | '"' :: rest =>
    match rest.reverse with
    | '"' :: bodyRev => (unesc .normal bodyRev.reverse).map String.ofList
    | _ => none
  | _ => none

end RustLex
end WgslVerif
