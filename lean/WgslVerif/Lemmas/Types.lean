import WgslVerif.Model.Types
import WgslVerif.Lemmas.Except
/-
What a successful call of `rustType` and of its helpers returns, as relations: the tables of
`rustScalarType`, `glamVectorType` and `glamMatrixType` row by row, and on top of them the shape of the
result per kind of WGSL type.  Every property of the type mapping is proved by cases on these.
-/
namespace WgslVerif

theorem unwrapName_ok {tag : String} {x : Option String} {n : String} :
    unwrapName tag x = .ok n ↔ x = some n := by
  cases x with
  | none => exact ⟨fun h => (nomatch h), fun h => (nomatch h)⟩
  | some a => exact ⟨fun h => congrArg some (Except.ok.inj h), fun h => congrArg Except.ok (Option.some.inj h)⟩

theorem typeAt_ok {m : Module} {h : Nat} {t : Ty} : typeAt m h = .ok t ↔ m.types[h]? = some t := by
  unfold typeAt
  cases m.types[h]? with
  | none => exact ⟨fun h => (nomatch h), fun h => (nomatch h)⟩
  | some a => exact ⟨fun h => congrArg some (Except.ok.inj h), fun h => congrArg Except.ok (Option.some.inj h)⟩

/-- the rows of `rustScalarType` -/
inductive ScalarPrim : Scalar → String → Prop
  | i8 : ScalarPrim ⟨.sint, 1⟩ "i8"
  | u8 : ScalarPrim ⟨.uint, 1⟩ "u8"
  | i16 : ScalarPrim ⟨.sint, 2⟩ "i16"
  | u16 : ScalarPrim ⟨.uint, 2⟩ "u16"
  | i32 : ScalarPrim ⟨.sint, 4⟩ "i32"
  | u32 : ScalarPrim ⟨.uint, 4⟩ "u32"
  | f32 : ScalarPrim ⟨.float, 4⟩ "f32"
  | f64 : ScalarPrim ⟨.float, 8⟩ "f64"
  | bool (w : Nat) : ScalarPrim ⟨.bool, w⟩ "bool"

theorem rustScalarType_ok {s : Scalar} {r : RustTy} (h : rustScalarType s = .ok r) :
    ∃ p, ScalarPrim s p ∧ r = .prim p := by
  obtain ⟨k, w⟩ := s
  unfold rustScalarType at h
  dsimp only at h
  split at h <;> first | (cases h; exact ⟨_, by constructor, rfl⟩) | cases h

/-- the vector and matrix helpers, outside the glam tables, put the Rust scalar type under a constructor `k` -/
theorem rustScalarType_then_ok {s : Scalar} {k : RustTy → RustTy} {r : RustTy}
    (h : (do let t ← rustScalarType s; pure (k t)) = .ok r) : ∃ p, ScalarPrim s p ∧ r = k (.prim p) := by
  obtain ⟨t, ht, h⟩ := Except.bind_ok h
  obtain ⟨p, hp, rfl⟩ := rustScalarType_ok ht
  cases h
  exact ⟨p, hp, rfl⟩

/-- the rows of `glamVectorType` that name a glam type -/
inductive GlamVec : VecSize → Scalar → String → Prop
  | vec2 : GlamVec .bi ⟨.float, 4⟩ "Vec2"
  | vec3 : GlamVec .tri ⟨.float, 4⟩ "Vec3"
  | vec4 : GlamVec .quad ⟨.float, 4⟩ "Vec4"
  | dvec2 : GlamVec .bi ⟨.float, 8⟩ "DVec2"
  | dvec3 : GlamVec .tri ⟨.float, 8⟩ "DVec3"
  | dvec4 : GlamVec .quad ⟨.float, 8⟩ "DVec4"
  | uvec2 : GlamVec .bi ⟨.uint, 4⟩ "UVec2"
  | uvec3 : GlamVec .tri ⟨.uint, 4⟩ "UVec3"
  | uvec4 : GlamVec .quad ⟨.uint, 4⟩ "UVec4"
  | ivec2 : GlamVec .bi ⟨.sint, 4⟩ "IVec2"
  | ivec3 : GlamVec .tri ⟨.sint, 4⟩ "IVec3"
  | ivec4 : GlamVec .quad ⟨.sint, 4⟩ "IVec4"

/-- the rows of `glamMatrixType` that name a glam type (rows, columns, width) -/
inductive GlamMat : VecSize → VecSize → Nat → String → Prop
  | mat2 : GlamMat .bi .bi 4 "Mat2"
  | mat3 : GlamMat .tri .tri 4 "Mat3"
  | mat4 : GlamMat .quad .quad 4 "Mat4"
  | dmat2 : GlamMat .bi .bi 8 "DMat2"
  | dmat3 : GlamMat .tri .tri 8 "DMat3"
  | dmat4 : GlamMat .quad .quad 8 "DMat4"

/-- the Rust type of a vector: a glam type where the table has one, else `[p; n]` (`SVector<p, n>` under nalgebra) -/
inductive VectorOk : Repr3 → VecSize → Scalar → RustTy → Prop
  | array {repr n s p} : repr ≠ .nalgebra → (repr = .glam → ∀ g, ¬ GlamVec n s g) → ScalarPrim s p →
      VectorOk repr n s (.array (.prim p) n.toNat)
  | glam {n s g} : GlamVec n s g → VectorOk .glam n s (.glam g)
  | nalgebra {n s p} : ScalarPrim s p → VectorOk .nalgebra n s (.nalgebraV (.prim p) n.toNat)

/-- the Rust type of a matrix of float width `w` -/
inductive MatrixOk : Repr3 → VecSize → VecSize → Nat → RustTy → Prop
  | array {repr rows cols w p} : repr ≠ .nalgebra → (repr = .glam → ∀ g, ¬ GlamMat rows cols w g) →
      ScalarPrim ⟨.float, w⟩ p → MatrixOk repr rows cols w (.array (.array (.prim p) cols.toNat) rows.toNat)
  | glam {rows cols w g} : GlamMat rows cols w g → MatrixOk .glam rows cols w (.glam g)
  | nalgebra {rows cols w p} : ScalarPrim ⟨.float, w⟩ p →
      MatrixOk .nalgebra rows cols w (.nalgebraM (.prim p) rows.toNat cols.toNat)

theorem GlamVec.eq {n : VecSize} {s : Scalar} {g : String} (h : GlamVec n s g) :
    glamVectorType n s = .ok (.glam g) := by
  cases h <;> rfl

theorem glamVectorType_ok {n : VecSize} {s : Scalar} {r : RustTy} (h : glamVectorType n s = .ok r) :
    VectorOk .glam n s r := by
  have h0 := h
  obtain ⟨k, w⟩ := s
  unfold glamVectorType at h
  dsimp only at h
  split at h
  case h_13 =>   -- the last row: no glam type, the array fallback
    obtain ⟨p, hp, rfl⟩ := rustScalarType_then_ok (k := (.array · n.toNat)) h
    refine .array (by decide) (fun _ g hg => ?_) hp
    rw [hg.eq] at h0
    cases h0
  all_goals (cases h; exact .glam (by constructor))

theorem vectorType_ok {repr : Repr3} {n : VecSize} {s : Scalar} {r : RustTy}
    (h : (match repr with
      | .rust => rustVectorType n s
      | .glam => glamVectorType n s
      | .nalgebra => nalgebraVectorType n s) = .ok r) : VectorOk repr n s r := by
  cases repr
  · obtain ⟨p, hp, rfl⟩ := rustScalarType_then_ok (k := (.array · n.toNat)) h
    exact .array (by decide) (fun hc => by cases hc) hp
  · exact glamVectorType_ok h
  · obtain ⟨p, hp, rfl⟩ := rustScalarType_then_ok (k := (.nalgebraV · n.toNat)) h
    exact .nalgebra hp

theorem GlamMat.eq {rows cols : VecSize} {w : Nat} {g : String} (h : GlamMat rows cols w g) :
    glamMatrixType rows cols w = .ok (.glam g) := by
  cases h <;> rfl

theorem glamMatrixType_ok {rows cols : VecSize} {w : Nat} {r : RustTy} (h : glamMatrixType rows cols w = .ok r) :
    MatrixOk .glam rows cols w r := by
  have h0 := h
  unfold glamMatrixType at h
  split at h
  case h_7 =>   -- the last row: no glam type, the array fallback
    obtain ⟨p, hp, rfl⟩ := rustScalarType_then_ok (k := fun t => .array (.array t cols.toNat) rows.toNat) h
    refine .array (by decide) (fun _ g hg => ?_) hp
    rw [hg.eq] at h0
    cases h0
  all_goals (cases h; exact .glam (by constructor))

theorem matrixType_ok {repr : Repr3} {rows cols : VecSize} {w : Nat} {r : RustTy}
    (h : (match repr with
      | .rust => rustMatrixType rows cols w
      | .glam => glamMatrixType rows cols w
      | .nalgebra => nalgebraMatrixType rows cols w) = .ok r) : MatrixOk repr rows cols w r := by
  cases repr
  · obtain ⟨p, hp, rfl⟩ := rustScalarType_then_ok (k := fun t => .array (.array t cols.toNat) rows.toNat) h
    exact .array (by decide) (fun hc => by cases hc) hp
  · exact glamMatrixType_ok h
  · obtain ⟨p, hp, rfl⟩ := rustScalarType_then_ok (k := (.nalgebraM · rows.toNat cols.toNat)) h
    exact .nalgebra hp

/-- a successful `rustType m repr fuel ty = .ok r`, by the kind of `ty` -/
inductive RustTypeOk (m : Module) (repr : Repr3) : Nat → Ty → RustTy → Prop
  | scalar {fuel ty s p} : ty.inner = .scalar s → ScalarPrim s p → RustTypeOk m repr (fuel + 1) ty (.prim p)
  | atomic {fuel ty s p} : ty.inner = .atomic s → ScalarPrim s p → RustTypeOk m repr (fuel + 1) ty (.prim p)
  | vector {fuel ty n s r} : ty.inner = .vector n s → VectorOk repr n s r → RustTypeOk m repr (fuel + 1) ty r
  | matrix {fuel ty cols rows s r} : ty.inner = .matrix cols rows s → MatrixOk repr rows cols s.width r →
      RustTypeOk m repr (fuel + 1) ty r
  | array {fuel ty base n stride bt e} : ty.inner = .array base (.const n) stride → m.types[base]? = some bt →
      rustType m repr fuel bt = .ok e → RustTypeOk m repr fuel bt e → RustTypeOk m repr (fuel + 1) ty (.array e n)
  | struct {fuel ty ms sp nm} : ty.inner = .struct ms sp → ty.name = some nm →
      RustTypeOk m repr (fuel + 1) ty (.named nm)

theorem rustType_ok {m : Module} {repr : Repr3} :
    ∀ {fuel ty r}, rustType m repr fuel ty = .ok r → RustTypeOk m repr fuel ty r := by
  intro fuel
  induction fuel with
  | zero => intro ty r h; cases h
  | succ fuel ih =>
    intro ty r h
    unfold rustType at h
    split at h
    case h_1 s hin => obtain ⟨p, hp, rfl⟩ := rustScalarType_ok h; exact .scalar hin hp
    case h_2 n s hin => exact .vector hin (vectorType_ok h)
    case h_3 cols rows s hin => exact .matrix hin (matrixType_ok h)
    case h_6 s hin => obtain ⟨p, hp, rfl⟩ := rustScalarType_ok h; exact .atomic hin hp
    case h_9 base n stride hin =>
      split at h
      · rename_i bt hb
        obtain ⟨e, he, h⟩ := Except.bind_ok h
        cases h
        exact .array hin hb he (ih he)
      · cases h
    case h_12 ms sp hin =>
      split at h
      · rename_i nm hnm; cases h; exact .struct hin hnm
      · cases h
    all_goals cases h

end WgslVerif
