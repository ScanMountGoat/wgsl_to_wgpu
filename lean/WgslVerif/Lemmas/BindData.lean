import WgslVerif.Model.BindData
import WgslVerif.Lemmas.List
/-
The sorted association list of `Model/BindData.lean`: `lookup`, `Sorted`, the invariant `RepFrom` of `collect`
with the duplicate test `Clashes`, and what `upsert` does to a sorted map in terms of `lookup` (C11, C04).
-/
namespace WgslVerif
namespace C11

def lookup (gs : Groups) (g : Nat) : List GroupBinding :=
  match gs.find? (·.1 = g) with
  | some (_, bs) => bs
  | none => []

def Sorted : Groups → Prop
  | [] => True
  | [_] => True
  | (k1, _) :: (k2, b2) :: rest => k1 < k2 ∧ Sorted ((k2, b2) :: rest)

/-- representation invariant: `gs` represents the processed prefix `p` -/
structure Rep (gs : Groups) (p : List GroupBinding) : Prop where
  sorted : Sorted gs
  content : ∀ g, lookup gs g = p.filter (·.group = g)
  nonempty : ∀ k bs, (k, bs) ∈ gs → bs ≠ []

def Clash (p : List GroupBinding) (b : GroupBinding) : Prop := ∃ x ∈ p, x.group = b.group ∧ x.binding = b.binding

def Clashes (p : List GroupBinding) (b : GroupBinding) : Bool := p.any (fun x => x.group = b.group ∧ x.binding = b.binding)

/-- `gs` represents, for every group `≥ lo`, the bindings of prefix `p` in declaration order -/
structure RepFrom (lo : Nat) (gs : Groups) (p : List GroupBinding) : Prop where
  sorted : Sorted gs
  lower : ∀ k bs, (k, bs) ∈ gs → lo ≤ k
  content : ∀ g, lo ≤ g → lookup gs g = p.filter (·.group = g)

theorem lookup_cons (k : Nat) (bs : List GroupBinding) (rest : Groups) (g : Nat) :
    lookup ((k, bs) :: rest) g = if k = g then bs else lookup rest g := by
  unfold lookup
  by_cases h : k = g <;> simp [h]

theorem lookup_eq_nil {gs : Groups} {g : Nat} (h : g ∉ gs.map (·.1)) : lookup gs g = [] := by
  unfold lookup
  rw [List.find?_eq_none.mpr fun x hx e => h (List.mem_map.mpr ⟨x, hx, of_decide_eq_true e⟩)]

theorem sorted_cons {x : Nat × List GroupBinding} {gs : Groups} :
    Sorted (x :: gs) ↔ (∀ k ∈ gs.map (·.1), x.1 < k) ∧ Sorted gs := by
  induction gs generalizing x with
  | nil => simp [Sorted]
  | cons y ys ih =>
    simp only [Sorted, ih (x := y), List.map_cons, List.forall_mem_cons]
    exact ⟨fun ⟨h, hy, hs⟩ => ⟨⟨h, fun k hk => Nat.lt_trans h (hy k hk)⟩, hy, hs⟩,
      fun ⟨⟨h, _⟩, hy, hs⟩ => ⟨h, hy, hs⟩⟩

theorem sorted_iff (gs : Groups) : Sorted gs ↔ (gs.map (·.1)).Pairwise (· < ·) := by
  induction gs with
  | nil => simp [Sorted]
  | cons x xs ih => rw [sorted_cons, List.map_cons, List.pairwise_cons, ih]

theorem lookup_of_mem {gs : Groups} {g : Nat} {l : List GroupBinding} (hs : Sorted gs)
    (hm : (g, l) ∈ gs) : lookup gs g = l := by
  induction gs with
  | nil => cases hm
  | cons x rest ih =>
    rw [sorted_cons] at hs
    rw [lookup_cons]
    rcases List.mem_cons.mp hm with e | hm'
    · cases e; exact if_pos rfl
    · rw [if_neg (Nat.ne_of_lt (hs.1 g (List.mem_map.mpr ⟨_, hm', rfl⟩))), ih hs.2 hm']

/-- a sorted map is determined by its keys and its `lookup` -/
theorem eq_map_keys {gs : Groups} (hs : Sorted gs) :
    gs = (gs.map (·.1)).map fun k => (k, lookup gs k) := by
  rw [List.map_map]
  exact (List.map_id'' (fun x => rfl) gs).symm.trans
    (List.map_congr_left fun x hx => by rw [Function.comp, lookup_of_mem hs hx])

theorem lookup_map_range (n : Nat) (f : Nat → List GroupBinding) (g : Nat) :
    lookup ((List.range n).map fun k => (k, f k)) g = if g < n then f g else [] := by
  split
  · refine lookup_of_mem ((sorted_iff _).mpr ?_) (List.mem_map.mpr ⟨g, List.mem_range.mpr ‹_›, rfl⟩)
    rw [map_fst_map_pair]
    exact List.pairwise_lt_range
  · exact lookup_eq_nil (by rwa [map_fst_map_pair, List.mem_range])

/-- `upsert` on a sorted map: the duplicate scan looks at `lookup gs b.group`; otherwise `b` is
appended to its own group, nothing else moves, and the only key that may be new is `b.group`. -/
theorem upsert_spec (b : GroupBinding) (gs : Groups) (hs : Sorted gs) :
    match upsert b gs with
    | .error e => (lookup gs b.group).any (fun x => x.binding = b.binding) = true ∧
        e = .duplicateBinding b.binding
    | .ok gs' => (lookup gs b.group).any (fun x => x.binding = b.binding) = false ∧ Sorted gs' ∧
        (∀ g, lookup gs' g = lookup gs g ++ if b.group = g then [b] else []) ∧
        (∀ k, k ∈ gs'.map (·.1) ↔ k = b.group ∨ k ∈ gs.map (·.1)) := by
  fun_induction upsert b gs with
  | case1 => exact ⟨rfl, trivial, fun g => by rw [lookup_cons]; rfl, fun k => by simp⟩
  | case2 k bs rest h1 =>
    -- new smallest key: it was not there before
    have hlt : ∀ k' ∈ ((k, bs) :: rest).map (·.1), b.group < k' :=
      List.forall_mem_cons.mpr ⟨h1, fun k' hk' => Nat.lt_trans h1 ((sorted_cons.mp hs).1 k' hk')⟩
    have hnew : lookup ((k, bs) :: rest) b.group = [] :=
      lookup_eq_nil fun hm => Nat.lt_irrefl _ (hlt _ hm)
    rw [hnew]
    refine ⟨rfl, sorted_cons.mpr ⟨hlt, hs⟩, fun g => ?_, fun k' => by simp⟩
    rw [lookup_cons b.group]
    split
    · rw [← ‹b.group = g›, hnew]
      rfl
    · rw [List.append_nil]
  | case3 bs rest hany =>
    -- existing group: the model's own scan
    rw [lookup_cons, if_pos rfl]
    exact ⟨hany, rfl⟩
  | case4 bs rest hany =>
    -- existing group without a duplicate: push
    have hs' := sorted_cons.mp hs
    rw [lookup_cons, if_pos rfl]
    refine ⟨Bool.not_eq_true _ ▸ hany, sorted_cons.mpr hs', fun g => ?_, fun k' => by simp⟩
    rw [lookup_cons, lookup_cons]
    split
    · rfl
    · rw [List.append_nil]
  | case5 k bs rest h1 h2 r hr ih =>
    -- larger key: recurse into the tail
    have hs' := sorted_cons.mp hs
    rw [lookup_cons, if_neg (Ne.symm h2)]
    rw [hr] at ih
    obtain ⟨hany, hsr, hlook, hkeys⟩ := ih hs'.2
    refine ⟨hany, sorted_cons.mpr ⟨fun k' hk' => ?_, hsr⟩, fun g => ?_, fun k' => ?_⟩
    · rcases (hkeys k').mp hk' with e | hk'
      · exact e ▸ (by omega : k < b.group)
      · exact hs'.1 _ hk'
    · rw [lookup_cons, lookup_cons, hlook]
      split
      · rw [if_neg (by omega), List.append_nil]
      · rfl
    · simp only [List.map_cons, List.mem_cons, hkeys]
      exact or_left_comm
  | case6 k bs rest h1 h2 e hr ih =>
    rw [lookup_cons, if_neg (Ne.symm h2)]
    rw [hr] at ih
    exact ih (sorted_cons.mp hs).2

/-- the duplicate scan of `upsert`, read on the prefix the map represents -/
theorem any_filter_binding (p : List GroupBinding) (b : GroupBinding) :
    (p.filter (·.group = b.group)).any (fun x => x.binding = b.binding) = Clashes p b := by
  simp only [Clashes, List.any_filter, Bool.decide_and]

end C11
end WgslVerif
