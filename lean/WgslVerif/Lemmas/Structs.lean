import WgslVerif.Model.Structs
import WgslVerif.Lemmas.Types
/-
Shape of a successful `rustStruct` / `structs` call.
-/
namespace WgslVerif

/-- the members `rust_struct` makes fields of -/
def nonBuiltin (ms : List Member) : List Member := ms.filter fun mem => !isBuiltinMember mem

theorem mem_nonBuiltin {ms : List Member} {mem : Member} :
    mem ∈ nonBuiltin ms ↔ mem ∈ ms ∧ isBuiltinMember mem = false := by
  simp [nonBuiltin]

/-- what a successful `rustStruct` returns -/
theorem rustStruct_ok {m : Module} {o : Options} {gvt : List Nat} {h : Nat} {t : Ty}
    {all : List Member} {s : RStruct} (hs : rustStruct m o gvt h t all = .ok s) :
    let members := all.filter fun mem => !isBuiltinMember mem
    let hasRts := structHasRtsArrayMember m members
    let isHS := gvt.contains h
    ∃ name fields offs,
      t.name = some name ∧
      structMembers m o members = .ok fields ∧
      members.mapM (fun mem => do
        let n ← unwrapName "member-name" mem.name
        pure (RAssert.offset name n mem.offset ("offset of " ++ name ++ "." ++ n ++ " does not match WGSL")))
        = .ok offs ∧
      ¬ (hasRts = true ∧ o.encase = false) ∧
      ¬ (o.bmVertex = true ∧ isHS = false ∧ hasRts = true) ∧
      ¬ (o.bmHost = true ∧ isHS = true ∧ hasRts = true) ∧
      s = { name := name, reprC := !hasRts, derives := deriveList o hasRts isHS, fields := fields,
            asserts := if o.bmHost && isHS then
              RAssert.size name t.laySize ("size of " ++ name ++ " does not match WGSL") :: offs else [] } := by
  obtain ⟨name, hn, hs⟩ := Except.bind_ok hs
  obtain ⟨offs, ho, hs⟩ := Except.bind_ok hs
  obtain ⟨fields, hf, hs⟩ := Except.bind_ok hs
  refine ⟨name, fields, offs, unwrapName_ok.mp hn, hf, ho, ?_⟩
  obtain ⟨h1, hs⟩ := Except.ite_error_ok hs
  obtain ⟨h2, hs⟩ := Except.ite_error_ok hs
  obtain ⟨h3, hs⟩ := Except.ite_error_ok hs
  cases hs
  refine ⟨fun ⟨a, b⟩ => h1 ?_, fun ⟨a, b, c⟩ => h2 ?_, fun ⟨a, b, c⟩ => h3 ?_, rfl⟩
  · rw [a, b]; rfl
  · rw [a, b, c]; rfl
  · rw [a, b, c]; rfl

/-- `rustStruct_ok` read off the result -/
theorem rustStruct_proj {m : Module} {o : Options} {gvt : List Nat} {h : Nat} {t : Ty}
    {all : List Member} {s : RStruct} (hs : rustStruct m o gvt h t all = .ok s) :
    let members := all.filter fun mem => !isBuiltinMember mem
    t.name = some s.name ∧ structMembers m o members = .ok s.fields ∧
      s.derives = deriveList o (structHasRtsArrayMember m members) (gvt.contains h) ∧
      s.reprC = !structHasRtsArrayMember m members := by
  obtain ⟨_, _, _, hname, hf, _, _, _, _, rfl⟩ := rustStruct_ok hs
  exact ⟨hname, hf, rfl, rfl⟩

theorem rustStruct_name {m : Module} {o : Options} {gvt : List Nat} {h : Nat} {t : Ty}
    {all : List Member} {s : RStruct} (hs : rustStruct m o gvt h t all = .ok s) : t.name = some s.name :=
  (rustStruct_proj hs).1

theorem rustStruct_fields {m : Module} {o : Options} {gvt : List Nat} {h : Nat} {t : Ty}
    {all : List Member} {s : RStruct} (hs : rustStruct m o gvt h t all = .ok s) :
    structMembers m o (all.filter fun mem => !isBuiltinMember mem) = .ok s.fields :=
  (rustStruct_proj hs).2.1

/-- how a field arises from a member (`struct_members`) -/
def FieldFrom (m : Module) (o : Options) (mem : Member) (f : RField) : Prop :=
  ∃ ty, m.types[mem.ty]? = some ty ∧ mem.name = some f.name ∧
    ((∃ base stride bt e, ty.inner = .array base .dynamic stride ∧ m.types[base]? = some bt ∧
        rustType m o.repr (typeFuel m) bt = .ok e ∧ f.ty = .vec e ∧ f.runtime = true) ∨
     ((∀ base stride, ty.inner ≠ .array base .dynamic stride) ∧
        rustType m o.repr (typeFuel m) ty = .ok f.ty ∧ f.runtime = false))

theorem FieldFrom.name {m : Module} {o : Options} {mem : Member} {f : RField} (h : FieldFrom m o mem f) :
    mem.name = some f.name := by
  obtain ⟨_, _, hn, _⟩ := h
  exact hn

theorem member_fieldFrom {m : Module} {o : Options} {len idx : Nat} {mem : Member} {rest : List Member}
    {fs : List RField} (h : structMembersFrom m o len idx (mem :: rest) = .ok fs) :
    ∃ f fs', fs = f :: fs' ∧ structMembersFrom m o len (idx + 1) rest = .ok fs' ∧ FieldFrom m o mem f ∧
      (f.runtime = true → idx = len - 1) := by
  obtain ⟨name, hn, h⟩ := Except.bind_ok h
  simp only [pure_bind] at h
  have hname := unwrapName_ok.mp hn
  split at h
  case h_2 => cases h   -- the member's type handle is out of range
  rename_i ty htys
  split at h
  · rename_i base stride hi
    obtain ⟨hidx, h⟩ := Except.ite_error_ok h
    split at h
    · rename_i bt hb
      obtain ⟨e, he, h⟩ := Except.bind_ok h
      obtain ⟨fs', hfs, h⟩ := Except.bind_ok h
      cases h
      exact ⟨_, fs', rfl, hfs, ⟨ty, htys, hname, .inl ⟨base, stride, bt, e, hi, hb, he, rfl, rfl⟩⟩,
        fun _ => Decidable.of_not_not hidx⟩
    · cases h
  · rename_i hne
    obtain ⟨t, ht, h⟩ := Except.bind_ok h
    obtain ⟨fs', hfs, h⟩ := Except.bind_ok h
    cases h
    exact ⟨_, fs', rfl, hfs, ⟨ty, htys, hname, .inr ⟨hne, ht, rfl⟩⟩, fun hc => nomatch hc⟩

/-- what a successful `structMembersFrom` returns: the fields arise from the members position by
position, and when `idx` members come before `l` out of `len`, only the last field can be runtime-sized -/
theorem structMembersFrom_ok {m : Module} {o : Options} {len : Nat} :
    ∀ {l : List Member} {idx : Nat} {fs : List RField}, structMembersFrom m o len idx l = .ok fs →
      Pairs (FieldFrom m o) l fs ∧ (idx + l.length = len → ∀ f ∈ fs.dropLast, f.runtime = false) := by
  intro l
  induction l with
  | nil =>
    intro idx fs h
    cases h
    exact ⟨.nil, fun _ f hf => by cases hf⟩
  | cons mem rest ih =>
    intro idx fs h
    obtain ⟨f, fs', rfl, hrest, hf, hlast⟩ := member_fieldFrom h
    obtain ⟨hp, hrt⟩ := ih hrest
    refine ⟨.cons hf hp, fun hlen g hg => ?_⟩
    rw [List.length_cons] at hlen
    -- `dropLast` keeps `f` only when a field follows it, and then `idx` is not the last index
    cases hp with
    | nil => cases hg
    | cons _ _ =>
      rcases List.mem_cons.mp hg with rfl | hg
      · cases hr : g.runtime
        · rfl
        · have := hlast hr
          rw [List.length_cons] at hlen
          omega
      · exact hrt (by omega) g hg

theorem structMembers_ok {m : Module} {o : Options} {ms : List Member} {fs : List RField}
    (h : structMembers m o ms = .ok fs) :
    Pairs (FieldFrom m o) ms fs ∧ ∀ f ∈ fs.dropLast, f.runtime = false :=
  ⟨(structMembersFrom_ok h).1, (structMembersFrom_ok h).2 (Nat.zero_add _)⟩

theorem structMembers_names {m : Module} {o : Options} {ms : List Member} {fs : List RField}
    (h : structMembers m o ms = .ok fs) : fs.map (fun f => some f.name) = ms.map (·.name) :=
  (structMembers_ok h).1.map_eq fun _ _ _ hf => hf.name.symm

/-- the element function of `structs` -/
def structOf (m : Module) (o : Options) (gvt : List Nat) (ht : Nat × Ty) : G (Option RStruct) :=
  match ht.2.inner with
  | .struct members _ => do
    let s ← rustStruct m o gvt ht.1 ht.2 members
    pure (some s)
  | _ => pure none

theorem structs_def (m : Module) (o : Options) :
    structs m o = ((indexed m.types).filter fun ht => structWanted m (globalVariableTypes m) ht.1).filterMapM
      (structOf m o (globalVariableTypes m)) := rfl

/-- `structsWith` uses its options and its set only through `structWanted` and `rustStruct` -/
theorem structsWith_congr {m : Module} {o o' : Options} {a b : List Nat}
    (hw : ∀ x, structWanted m a x = structWanted m b x)
    (hr : ∀ hd t ms, rustStruct m o a hd t ms = rustStruct m o' b hd t ms) :
    structsWith m o a = structsWith m o' b := by
  unfold structsWith
  simp only [hw, hr]

theorem structMembersFrom_congr {m : Module} {o o' : Options} (hr : o.repr = o'.repr) (len : Nat) :
    ∀ (ms : List Member) (idx : Nat), structMembersFrom m o len idx ms = structMembersFrom m o' len idx ms := by
  intro ms
  induction ms with
  | nil => intro idx; rfl
  | cons x xs ih =>
    intro idx
    unfold structMembersFrom
    simp only [hr, ih]

theorem rustStruct_opts_congr {m : Module} {o o' : Options} {gvt : List Nat} {h : Nat} {t : Ty} {ms : List Member}
    (h1 : o.bmVertex = o'.bmVertex) (h2 : o.bmHost = o'.bmHost) (h3 : o.encase = o'.encase)
    (h4 : o.serde = o'.serde) (h5 : o.repr = o'.repr) :
    rustStruct m o gvt h t ms = rustStruct m o' gvt h t ms := by
  unfold rustStruct structMembers deriveList
  simp only [h1, h2, h3, h4, structMembersFrom_congr h5]

/-- `rustStruct` asks its set of variable types only whether it contains the struct's own handle -/
theorem rustStruct_set_congr {m : Module} {o : Options} {a b : List Nat} {h : Nat} {t : Ty} {ms : List Member}
    (hc : a.contains h = b.contains h) : rustStruct m o a h t ms = rustStruct m o b h t ms := by
  unfold rustStruct
  simp only [hc]

/-- name of an arena entry when it is a struct type -/
def structNameOf (ht : Nat × Ty) : Option String :=
  match ht.2.inner with
  | .struct _ _ => ht.2.name
  | _ => none

theorem structNameOf_eq_some {ht : Nat × Ty} {n : String} :
    structNameOf ht = some n ↔ ∃ members span, ht.2.inner = .struct members span ∧ ht.2.name = some n := by
  unfold structNameOf
  split
  · next members span hi => simp [hi]
  · next hne => exact ⟨nofun, fun ⟨members, span, hi, _⟩ => (hne members span hi).elim⟩

theorem structOf_name {m : Module} {o : Options} {gvt : List Nat} {ht : Nat × Ty} {ob : Option RStruct}
    (h : structOf m o gvt ht = .ok ob) : ob.map (·.name) = structNameOf ht := by
  unfold structOf at h
  unfold structNameOf
  split at h
  · rename_i members span hi
    obtain ⟨s, hs, h⟩ := Except.bind_ok h
    cases h
    exact (rustStruct_name hs).symm
  · cases h
    rfl

/-- every emitted struct comes from a wanted struct type through `rustStruct` -/
theorem structs_mem {m : Module} {o : Options} {ss : List RStruct} (h : structs m o = .ok ss)
    {s : RStruct} (hs : s ∈ ss) :
    ∃ hd ty members span, (hd, ty) ∈ indexed m.types ∧ structWanted m (globalVariableTypes m) hd = true ∧
      ty.inner = .struct members span ∧ rustStruct m o (globalVariableTypes m) hd ty members = .ok s := by
  rw [structs_def] at h
  obtain ⟨ht, hmem, hf⟩ := filterMapM_ok_mem h s hs
  obtain ⟨hin, hw⟩ := List.mem_filter.mp hmem
  unfold structOf at hf
  split at hf
  · rename_i members span hi
    obtain ⟨s', hs', hf⟩ := Except.bind_ok hf
    cases hf
    exact ⟨ht.1, ht.2, members, span, hin, hw, hi, hs'⟩
  · cases hf

theorem mem_indexed {α : Type} {l : List α} {i : Nat} {a : α} :
    (i, a) ∈ indexed l ↔ l[i]? = some a := by
  unfold indexed
  rw [List.mem_iff_getElem?]
  simp only [List.getElem?_zip_eq_some]
  constructor
  · rintro ⟨k, hk, ha⟩
    obtain ⟨_, rfl⟩ := List.getElem?_eq_some_iff.mp hk
    rwa [List.getElem_range]
  · intro h
    exact ⟨i, List.getElem?_range (List.getElem?_eq_some_iff.mp h).1, h⟩

/-- every wanted struct type is emitted -/
theorem structs_complete {m : Module} {o : Options} {ss : List RStruct} (h : structs m o = .ok ss)
    {hd : Nat} {ty : Ty} {ms : List Member} {sp : Nat} (hty : m.types[hd]? = some ty)
    (hi : ty.inner = .struct ms sp) (hw : structWanted m (globalVariableTypes m) hd = true) :
    ∃ s ∈ ss, rustStruct m o (globalVariableTypes m) hd ty ms = .ok s := by
  rw [structs_def] at h
  obtain ⟨obs, hobs, rfl⟩ := filterMapM_ok_iff.mp h
  obtain ⟨ob, hob, hf⟩ := hobs.mem_left (hd, ty) (List.mem_filter.mpr ⟨mem_indexed.mpr hty, hw⟩)
  unfold structOf at hf
  simp only [hi] at hf
  obtain ⟨s, hs, hf⟩ := Except.bind_ok hf
  cases hf
  exact ⟨s, by simpa using hob, hs⟩

/-- an emitted struct is found, by its name, at the arena entry it was made from -/
theorem structs_find {m : Module} {o : Options} {ss : List RStruct} (h : structs m o = .ok ss)
    (hn : ((indexed m.types).filterMap structNameOf).Nodup) {s : RStruct} (hs : s ∈ ss) :
    ∃ hd ty ms sp, (indexed m.types).find? (fun ht => structNameOf ht == some s.name) = some (hd, ty) ∧
      ty.inner = .struct ms sp ∧ rustStruct m o (globalVariableTypes m) hd ty ms = .ok s := by
  obtain ⟨hd, ty, ms, sp, hin, _, hi, hr⟩ := structs_mem h hs
  exact ⟨hd, ty, ms, sp, find?_key hn hin (structNameOf_eq_some.mpr ⟨ms, sp, hi, rustStruct_name hr⟩), hi, hr⟩

end WgslVerif
