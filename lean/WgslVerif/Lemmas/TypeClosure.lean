import WgslVerif.Model.TypeClosure
import WgslVerif.Lemmas.Dfs
/-
`add_types_recursive` with the early return is a memoised DFS over the type graph:
the resulting set is exactly the set of types reachable from the variable types, and the
number of invocations is bounded by `#globals + maxDeg * #types`.  The search part is
`Lemmas/Dfs.lean`, shared with the stage traversal; the counter is added here.
-/
namespace WgslVerif

/-- type `b` is reachable from type `a` through members, array / pointer / binding-array bases -/
inductive TyReach (m : Module) : Nat → Nat → Prop
  | refl (n) : TyReach m n n
  | step {a b c} : b ∈ typeSucc m a → TyReach m b c → TyReach m a c

/-- a type refers only to types with a smaller arena index (`UniqueArena` construction) -/
def TypesEarlier (m : Module) : Prop := ∀ t s, s ∈ typeSucc m t → s < t

def TyClosedBelow (m : Module) (k : Nat) (vis : List Nat) : Prop :=
  ∀ v, v ∈ vis → v < k → ∀ w, TyReach m v w → w ∈ vis

theorem TyReach.trans {m : Module} {a b c} (h1 : TyReach m a b) (h2 : TyReach m b c) : TyReach m a c := by
  induction h1 with
  | refl => exact h2
  | step hs _ ih => exact TyReach.step hs (ih h2)

theorem tyReach_snoc {m : Module} {a b c : Nat} (h : TyReach m a b) (hs : c ∈ typeSucc m b) : TyReach m a c :=
  TyReach.trans h (TyReach.step hs (TyReach.refl c))

theorem tyReach_last {m : Module} {a b c : Nat} (hs : b ∈ typeSucc m a) (hr : TyReach m b c) :
    ∃ p, c ∈ typeSucc m p := by
  induction hr generalizing a with
  | refl => exact ⟨a, hs⟩
  | step hs' _ ih => exact ih hs'

/-- largest out-degree of the type graph -/
def maxDeg (m : Module) : Nat :=
  ((List.range m.types.length).map fun t => (typeSucc m t).length).foldr max 0

theorem typeSucc_eq_nil {m : Module} {t : Nat} (ht : m.types.length ≤ t) : typeSucc m t = [] := by
  simp [typeSucc, List.getElem?_eq_none ht]

theorem member_typeSucc {m : Module} {h : Nat} {ty : Ty} {ms : List Member} {sp : Nat} {mem : Member}
    (hty : m.types[h]? = some ty) (hi : ty.inner = .struct ms sp) (hmem : mem ∈ ms) : mem.ty ∈ typeSucc m h := by
  simp only [typeSucc, hty, hi]
  exact List.mem_map_of_mem hmem

theorem base_typeSucc {m : Module} {h base stride : Nat} {ty : Ty} {sz : ArraySize}
    (hty : m.types[h]? = some ty) (hi : ty.inner = .array base sz stride) : base ∈ typeSucc m h := by
  simp [typeSucc, hty, hi]

theorem typeSucc_lt_length {m : Module} {h s : Nat} (hs : s ∈ typeSucc m h) : h < m.types.length := by
  refine Nat.lt_of_not_le fun hle => ?_
  rw [typeSucc_eq_nil hle] at hs
  cases hs

theorem deg_le_max (m : Module) (t : Nat) : (typeSucc m t).length ≤ maxDeg m := by
  by_cases ht : t < m.types.length
  · exact le_foldr_max (fun t => (typeSucc m t).length) (List.mem_range.mpr ht)
  · rw [typeSucc_eq_nil (Nat.le_of_not_lt ht)]
    exact Nat.zero_le _

/-- what one `add_types_recursive` call (or a sequence of calls) guarantees -/
structure TySpec (m : Module) (p : Nat) (roots : List Nat) (a r : List Nat × Nat) : Prop where
  mem : ∀ x, x ∈ r.1 ↔ (x ∈ a.1 ∨ ∃ s ∈ roots, TyReach m s x)
  closed : TyClosedBelow m p r.1
  count : r.2 + maxDeg m * a.1.length ≤ a.2 + roots.length + maxDeg m * r.1.length
  nodup : a.1.Nodup → r.1.Nodup
  mono : a.1.length ≤ r.1.length

theorem tyReach_iff (m : Module) (a b : Nat) : TyReach m a b ↔ GReach (typeSucc m) a b := by
  constructor <;> intro h <;> induction h with
  | refl => exact .refl _
  | step hs _ ih => exact .step hs ih

/-- the same in the terms of `Lemmas/Dfs.lean`, for a stretch of calls below level `p`: a search of
the type graph, and each type entered pays for the calls on its members -/
def TyRun (m : Module) (p : Nat) (roots : List Nat) (a r : List Nat × Nat) : Prop :=
  ClosedBelow (typeSucc m) p a.1 →
    DfsSpec (typeSucc m) roots a.1 r.1 ∧
    r.2 + maxDeg m * a.1.length ≤ a.2 + roots.length + maxDeg m * r.1.length

namespace TyRun
variable {m : Module} {p : Nat} {roots l1 l2 : List Nat} {a b c r : List Nat × Nat}

theorem nil (a : List Nat × Nat) : TyRun m p [] a a := fun _ => ⟨.nil, Nat.le_refl _⟩

theorem append (h1 : TyRun m p l1 a b) (h2 : TyRun m p l2 b c) : TyRun m p (l1 ++ l2) a c := by
  intro hc
  have ⟨d1, c1⟩ := h1 hc
  have ⟨d2, c2⟩ := h2 (d1.closed hc)
  refine ⟨d1.append d2, ?_⟩
  rw [List.length_append]
  omega

theorem spec (h : TyRun m p roots a r) (hc : ClosedBelow (typeSucc m) p a.1) : TySpec m p roots a r where
  mem x := by simp only [(h hc).1.mem, tyReach_iff]
  closed := by simpa only [TyClosedBelow, ClosedBelow, tyReach_iff] using (h hc).1.closed hc
  count := (h hc).2
  nodup := (h hc).1.nodup
  mono := (h hc).1.suffix.length_le

end TyRun

theorem addTypes_spec (m : Module) (hd : TypesEarlier m) :
    ∀ fuel n p (a : List Nat × Nat), n < fuel → n < p → TyRun m p [n] a (addTypes m fuel n a) := by
  intro fuel
  induction fuel with
  | zero => intro n p a h; omega
  | succ fuel ih =>
    intro n p a hn hp hc
    obtain ⟨vis, cnt⟩ := a
    unfold addTypes
    by_cases hmem : n ∈ vis
    · rw [if_pos hmem]
      exact ⟨.hit hc hp hmem, Nat.le_refl _⟩
    · rw [if_neg hmem]
      -- the members of `n` are below `n`: they are searched at level `n` with the remaining fuel
      have ⟨hs, hcount⟩ := foldl_rel (Q := TyRun m n) .nil .append (fun a s => addTypes m fuel s a) (typeSucc m n)
        (fun s hs a => ih s n a (by have := hd n s hs; omega) (hd n s hs))
        (n :: vis, cnt + 1) (hc.cons (Nat.le_of_lt hp))
      refine ⟨.node hmem hs, ?_⟩
      -- `n` pays 1 for its own call; its at most `maxDeg` recursive calls are paid by the element it adds to the set
      have := deg_le_max m n
      simp only [List.length_cons, List.length_nil, Nat.mul_succ] at hcount ⊢
      omega

theorem globals_run (m : Module) (hd : TypesEarlier m) (hb : ∀ g ∈ m.globals, g.ty < m.types.length) :
    TyRun m m.types.length (m.globals.map (·.ty)) ([], 0) (globalVariableTypesSt m) :=
  -- a run over the variables is a run over their types
  foldl_rel (Q := fun gs => TyRun m m.types.length (gs.map Global.ty)) .nil
    (fun h1 h2 => List.map_append ▸ h1.append h2) _ m.globals
    (fun g hg a => addTypes_spec m hd _ g.ty _ a (Nat.lt_succ_of_lt (hb g hg)) (hb g hg)) _

theorem globals_fold_spec (m : Module) (hd : TypesEarlier m)
    (hb : ∀ g ∈ m.globals, g.ty < m.types.length) :
    TySpec m m.types.length (m.globals.map (·.ty)) ([], 0) (globalVariableTypesSt m) :=
  (globals_run m hd hb).spec (ClosedBelow.nil _)

/-- **closure**: `global_variable_types` = the types reachable from a module-scope variable -/
theorem globalVariableTypes_mem (m : Module) (hd : TypesEarlier m)
    (hb : ∀ g ∈ m.globals, g.ty < m.types.length) (x : Nat) :
    x ∈ globalVariableTypes m ↔ ∃ g ∈ m.globals, TyReach m g.ty x := by
  simp only [globalVariableTypes, (globals_fold_spec m hd hb).mem x, exists_mem_map, List.not_mem_nil,
    false_or]

/-- **C20** (type closure): invocations of `add_types_recursive` are bounded by
`#globals + maxDeg × #types` – no multiplication with the nesting depth. -/
theorem typeVisits_bound (m : Module) (hd : TypesEarlier m)
    (hb : ∀ g ∈ m.globals, g.ty < m.types.length) :
    (globalVariableTypesSt m).2 ≤ m.globals.length + maxDeg m * m.types.length := by
  have ⟨hs, hc⟩ := globals_run m hd hb (ClosedBelow.nil _)
  have := Nat.mul_le_mul_left (maxDeg m) (hs.length_le hd (List.forall_mem_map.mpr hb))
  simp only [List.length_nil, List.length_map, Nat.mul_zero, Nat.add_zero] at hc
  omega

end WgslVerif
