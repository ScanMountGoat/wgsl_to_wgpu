import WgslVerif.Lemmas.Walk
import WgslVerif.Lemmas.Dfs
/-
The memoised stage traversal computes call-graph reachability, adds the stage to exactly the
variables used by a reached function, and makes one `update_stages` invocation per reached
function.  Two relations are pushed through the skeleton lemma `fn_ind` together: `QV` (the
visited list grows as a search of the call graph, `Lemmas/Dfs.lean`) and `Acct` (stage map and
counters are bookkeeping over the functions entered).  The recursion over the call graph is by
fuel, adequate under `CallsEarlier`.
-/
namespace WgslVerif

theorem Stages.none_union (s : Stages) : Stages.none.union s = s := by
  cases s; simp [Stages.none, Stages.union]

theorem Stages.has_union (a b : Stages) (g : Stage) :
    (a.union b).has g = (a.has g || b.has g) := by
  cases a; cases b; cases g <;> simp [Stages.union, Stages.has]

theorem Stages.has_none (g : Stage) : Stages.none.has g = false := by
  cases g <;> rfl

theorem Stages.has_ofStage (s g : Stage) : (Stages.ofStage s).has g = true ↔ s = g := by
  cases s <;> cases g <;> simp [Stages.ofStage, Stages.has]

namespace StageMap

theorem get?_add (m : StageMap) (n n' : String) (s : Stages) :
    (m.add n s).get? n' =
      if n = n' then some ((m.getD n).union s) else m.get? n' := by
  induction m with
  | nil => by_cases h : n = n' <;> simp [add, get?, getD, h]
  | cons kv rest ih =>
    obtain ⟨k, v⟩ := kv
    by_cases hk : k = n
    · subst hk; by_cases h : k = n' <;> simp [add, get?, getD, h]
    · by_cases h : k = n'
      · subst h; simp [add, get?, hk, Ne.symm hk]
      · simp only [add, get?, hk, h, if_false, ih, getD]

theorem getD_add (m : StageMap) (n n' : String) (s : Stages) :
    (m.add n s).getD n' = if n = n' then (m.getD n).union s else m.getD n' := by
  unfold getD
  rw [get?_add]
  by_cases h : n = n' <;> simp [h, getD]

theorem has_foldl_add (stage : Stages) (n : String) (g : Stage) : ∀ (names : List String) (s : StageMap),
    ((names.foldl (fun s nm => s.add nm stage) s).getD n).has g = true ↔
      ((s.getD n).has g = true ∨ (stage.has g = true ∧ n ∈ names))
  | [], s => by simp
  | nm :: names, s => by
    rw [List.foldl_cons, has_foldl_add stage n g names, getD_add, List.mem_cons]
    by_cases h : nm = n
    · subst h
      simp only [if_true, Stages.has_union, Bool.or_eq_true, true_or, and_true]
      exact or_iff_left_of_imp fun h => Or.inr h.1
    · simp [h, Ne.symm h]

theorem isSome_foldl_add (stage : Stages) (n : String) : ∀ (names : List String) (s : StageMap),
    ((names.foldl (fun s nm => s.add nm stage) s).get? n).isSome = true ↔
      ((s.get? n).isSome = true ∨ n ∈ names)
  | [], s => by simp
  | nm :: names, s => by
    rw [List.foldl_cons, isSome_foldl_add stage n names, get?_add, List.mem_cons]
    by_cases h : nm = n
    · subst h; simp
    · simp [h, Ne.symm h]

end StageMap

/-- handles an arena function may recurse into (call statements anywhere in its body, then
call results among its expressions), in visiting order -/
def succOf (m : Module) (h : Nat) : List Nat :=
  match m.functions[h]? with
  | some f => callsOf (evFn m f)
  | none => []

abbrev Reach (m : Module) : Nat → Nat → Prop := GReach (succOf m)

/-- naga's WGSL front end emits functions in dependency order: a call in arena function `h`
targets a function with a smaller handle; entry points call arena functions. -/
structure CallsEarlier (m : Module) : Prop where
  arena : ∀ h s, s ∈ succOf m h → s < h
  entry : ∀ e ∈ m.entries, ∀ s ∈ callsOf (evFn m e.fn), s < m.functions.length

/-- variable `n` is used by an expression of arena function `x` -/
def UsesH (m : Module) (x : Nat) (n : String) : Prop :=
  ∃ f, m.functions[x]? = some f ∧ n ∈ usesOf (evFn m f)

/-- statements visited inside arena function `x` -/
def ticksH (m : Module) (x : Nat) : Nat :=
  match m.functions[x]? with
  | some f => ticksOf (evFn m f)
  | none => 0

/-- largest number of statements visited inside one arena function -/
def maxTicks (m : Module) : Nat :=
  (m.functions.map fun f => ticksOf (evFn m f)).foldr max 0

theorem ticksH_le_max (m : Module) (x : Nat) : ticksH m x ≤ maxTicks m := by
  unfold ticksH
  split
  · next f hf => exact le_foldr_max (fun f => ticksOf (evFn m f)) (List.mem_of_getElem? hf)
  · exact Nat.zero_le _

/-- the recursion handed to the walker by `update_stages` running with `fuel + 1` -/
def recOf (m : Module) (stage : Stages) (fuel : Nat) : Nat → StState → StState :=
  fun h s =>
    match m.functions[h]? with
    | some g => updateStages m stage fuel g s
    | none => s

theorem updateStages_succ (m : Module) (stage : Stages) (fuel : Nat) (f : Fn) (st : StState) :
    updateStages m stage (fuel + 1) f st =
      f.exprs.foldl (exprStep m stage (recOf m stage fuel))
        (walkList (recOf m stage fuel) f.body { st with fnVisits := st.fnVisits + 1 }) := rfl

section
variable {m : Module} {h : Nat} {g : Fn} (hg : m.functions[h]? = some g)
include hg

theorem succOf_some : succOf m h = callsOf (evFn m g) := by simp [succOf, hg]

theorem usesH_some (n : String) : UsesH m h n ↔ n ∈ usesOf (evFn m g) := by simp [UsesH, hg]

theorem ticksH_some : ticksH m h = ticksOf (evFn m g) := by simp [ticksH, hg]

theorem recOf_some (stage : Stages) (fuel : Nat) (st : StState) :
    recOf m stage fuel h st = updateStages m stage fuel g st := by simp [recOf, hg]

end

theorem succOf_eq_nil {m : Module} {h : Nat} (hh : m.functions.length ≤ h) : succOf m h = [] := by
  simp [succOf, List.getElem?_eq_none hh]

/-! ### what a stretch of the traversal does to the state

`QV`: the visited list grows as a search of the call graph from the calls of the stretch.
`Acct`: everything else is bookkeeping over the functions `new` entered on the way -- one
`update_stages` invocation each, their statements, their variables. -/

/-- `p` is the level of `ClosedBelow`: the function being walked (all its callees are below it), or
`functions.length` for an entry point -/
def QV (m : Module) (p : Nat) (evs : List Ev) (st st' : StState) : Prop :=
  ClosedBelow (succOf m) p st.visited → DfsSpec (succOf m) (callsOf evs) st.visited st'.visited

theorem QV_rel (m : Module) (p : Nat) : WalkRel (QV m p) where
  refl _ := fun _ => .nil
  comp := fun h1 h2 hc => callsOf_append _ _ ▸ (h1 hc).append (h2 ((h1 hc).closed hc))
  tick _ := fun _ => .nil

def Acct (m : Module) (stage : Stages) (evs : List Ev) (st st' : StState) : Prop :=
  ∃ (new : List Nat) (names : List String),
    st'.visited = new ++ st.visited ∧
    st'.fnVisits = st.fnVisits + new.length ∧
    st'.stmtVisits = st.stmtVisits + ticksOf evs + (new.map (ticksH m)).sum ∧
    st'.stages = names.foldl (fun s n => s.add n stage) st.stages ∧
    ∀ n, n ∈ names ↔ (n ∈ usesOf evs ∨ ∃ x ∈ new, UsesH m x n)

theorem Acct_rel (m : Module) (stage : Stages) : WalkRel (Acct m stage) where
  refl _ := ⟨[], [], rfl, rfl, rfl, rfl, by simp [usesOf]⟩
  comp := by
    rintro l1 l2 a b c ⟨new1, names1, v1, f1, t1, s1, u1⟩ ⟨new2, names2, v2, f2, t2, s2, u2⟩
    refine ⟨new2 ++ new1, names1 ++ names2, by rw [v2, v1, List.append_assoc],
      by rw [f2, f1, List.length_append]; omega,
      by rw [t2, t1, ticksOf_append, List.map_append, List.sum_append]; omega,
      by rw [s2, s1, List.foldl_append], fun n => ?_⟩
    simp only [List.mem_append, u1, u2, usesOf_append, or_and_right, exists_or]
    exact or_or_or_comm.trans (or_congr_right or_comm)
  tick _ := ⟨[], [], rfl, rfl, rfl, rfl, by simp [usesOf]⟩

theorem visit_use (m : Module) (p : Nat) (stage : Stages) (nm : String) (st : StState) :
    QV m p [.use nm] st { st with stages := st.stages.add nm stage } ∧
    Acct m stage [.use nm] st { st with stages := st.stages.add nm stage } :=
  ⟨fun _ => .nil, [], [nm], rfl, rfl, rfl, rfl, by simp [usesOf]⟩

/-- entering function `h`: it is the first of the functions entered, and the events of the call are
those of its body `g` -/
theorem Acct.node {m : Module} {stage : Stages} {h : Nat} {g : Fn} {st st' : StState}
    (hg : m.functions[h]? = some g)
    (ha : Acct m stage (evFn m g) { st with visited := h :: st.visited, fnVisits := st.fnVisits + 1 } st') :
    Acct m stage [.call h] st st' := by
  obtain ⟨new, names, v, f, t, s, u⟩ := ha
  dsimp only at v f t
  have hticks : ticksOf [Ev.call h] = 0 := rfl
  have huses : usesOf [Ev.call h] = [] := rfl
  refine ⟨new ++ [h], names, ?_, ?_, ?_, s, fun n => ?_⟩
  · rw [v, List.append_assoc]
    rfl
  · rw [f, List.length_append, List.length_singleton]
    omega
  · rw [t, List.map_append, List.sum_append, List.map_singleton, List.sum_singleton, ticksH_some hg, hticks]
    omega
  · simp only [u, List.mem_append, List.mem_singleton, or_and_right, exists_or, exists_eq_left,
      usesH_some hg, huses, List.not_mem_nil, false_or]
    exact or_comm

/-- `update_stages` on a function whose callees are all below `p`, after its own invocation tick: a search
from its calls, with its bookkeeping.  An arena function `h` is walked at level `p = h` (its callees are below it),
an entry point at `p = functions.length`; the fuel suffices when it is at least `p`. -/
theorem updateStages_spec (m : Module) (stage : Stages) (hd : ∀ h s, s ∈ succOf m h → s < h) :
    ∀ fuel p (f : Fn) (st : StState), p ≤ fuel → p ≤ m.functions.length →
      (∀ s ∈ callsOf (evFn m f), s < p) →
      QV m p (evFn m f) { st with fnVisits := st.fnVisits + 1 } (updateStages m stage (fuel + 1) f st) ∧
      Acct m stage (evFn m f) { st with fnVisits := st.fnVisits + 1 } (updateStages m stage (fuel + 1) f st) := by
  intro fuel
  induction fuel using Nat.strongRecOn with
  | _ fuel ih =>
    intro p f st hf hp hA
    rw [updateStages_succ]
    refine fn_ind (hQ := (QV_rel m p).and (Acct_rel m stage)) (rec := recOf m stage fuel)
      (A := fun s => s < p) (hcall := fun s hs st' => ?_) m stage (visit_use m p stage) f _ hA
    -- `visitCall` on a callee `s` is one step of a memoised search
    unfold visitCall
    by_cases hmem : s ∈ st'.visited
    · rw [if_pos hmem]
      exact ⟨fun hc => .hit hc hs hmem, [], [], rfl, rfl, rfl, rfl, by simp [usesOf]⟩
    · obtain ⟨g, hg⟩ : ∃ g, m.functions[s]? = some g := ⟨_, List.getElem?_eq_getElem (by omega)⟩
      obtain ⟨k, rfl⟩ : ∃ k, fuel = k + 1 := ⟨fuel - 1, by omega⟩
      rw [if_neg hmem, recOf_some hg]
      -- the callees of `s` are below `s`: its body is walked at level `s` with the remaining fuel
      have ⟨kV, kA⟩ := ih k (Nat.lt_succ_self k) s g { st' with visited := s :: st'.visited } (by omega) (by omega)
        (fun x hx => hd s x (succOf_some hg ▸ hx))
      exact ⟨fun hc => .node hmem (succOf_some hg ▸ kV (hc.cons (Nat.le_of_lt hs))), kA.node hg⟩

end WgslVerif
