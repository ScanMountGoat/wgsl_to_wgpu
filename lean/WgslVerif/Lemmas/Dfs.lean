import WgslVerif.Lemmas.List
/-
Memoised depth-first search over a graph on `Nat` whose edges go to smaller indices (naga's
arenas: a function calls earlier functions, a type refers to earlier types).  The search is not
given as a function: `DfsSpec` says what a run from a list of roots does to the visited list, and
four lemmas (`nil`, `append`, `hit`, `node`) build it along any traversal of that shape.  Both the
stage traversal (call graph) and `add_types_recursive` (type graph) are such traversals.
-/
namespace WgslVerif

/-- reflexive-transitive closure of the edge relation `b ∈ succ a` -/
inductive GReach (succ : Nat → List Nat) : Nat → Nat → Prop
  | refl (n) : GReach succ n n
  | step {a b c} : b ∈ succ a → GReach succ b c → GReach succ a c

variable {succ : Nat → List Nat}

theorem GReach.trans {a b c} (h1 : GReach succ a b) (h2 : GReach succ b c) : GReach succ a c := by
  induction h1 with
  | refl => exact h2
  | step hs _ ih => exact .step hs (ih h2)

theorem GReach.head_iff {a c} : GReach succ a c ↔ c = a ∨ ∃ b ∈ succ a, GReach succ b c := by
  constructor
  · intro h
    cases h with
    | refl => exact Or.inl rfl
    | step hs hr => exact Or.inr ⟨_, hs, hr⟩
  · rintro (rfl | ⟨b, hs, hr⟩)
    · exact .refl _
    · exact .step hs hr

theorem GReach.le (hd : ∀ h s, s ∈ succ h → s < h) {a b} (h : GReach succ a b) : b ≤ a := by
  induction h with
  | refl => exact Nat.le_refl _
  | step hs _ ih => exact Nat.le_trans ih (Nat.le_of_lt (hd _ _ hs))

theorem edges_lt_of_lt {n : Nat} (hout : ∀ a, n ≤ a → succ a = [])
    (h : ∀ a, a < n → ∀ s ∈ succ a, s < a) : ∀ a s, s ∈ succ a → s < a := by
  intro a s hs
  by_cases ha : a < n
  · exact h a ha s hs
  · rw [hout a (Nat.le_of_not_lt ha)] at hs
    cases hs

/-- every visited node below `k` has all it reaches visited: below `k` the search is finished.
(The nodes still open are the current node and its callers, all `≥ k`.) -/
def ClosedBelow (succ : Nat → List Nat) (k : Nat) (vis : List Nat) : Prop :=
  ∀ v, v ∈ vis → v < k → ∀ w, GReach succ v w → w ∈ vis

theorem ClosedBelow.nil (k : Nat) : ClosedBelow succ k [] := fun _ h => nomatch h

theorem ClosedBelow.cons {p h : Nat} {vis : List Nat} (hc : ClosedBelow succ p vis) (hp : h ≤ p) :
    ClosedBelow succ h (h :: vis) := by
  intro v hv hlt w hw
  rcases List.mem_cons.mp hv with rfl | hv
  · omega
  · exact List.mem_cons_of_mem _ (hc v hv (by omega) w hw)

/-- a search from `roots`, started with `vis` visited, ends with `vis'` visited -/
structure DfsSpec (succ : Nat → List Nat) (roots vis vis' : List Nat) : Prop where
  mem : ∀ x, x ∈ vis' ↔ (x ∈ vis ∨ ∃ r ∈ roots, GReach succ r x)
  nodup : vis.Nodup → vis'.Nodup
  suffix : vis <:+ vis'

namespace DfsSpec
variable {roots l1 l2 a b c vis vis' : List Nat} {p h : Nat}

theorem nil : DfsSpec succ [] vis vis := ⟨fun x => by simp, id, List.suffix_refl _⟩

theorem append (h1 : DfsSpec succ l1 a b) (h2 : DfsSpec succ l2 b c) : DfsSpec succ (l1 ++ l2) a c :=
  ⟨fun x => by simp only [h2.mem, h1.mem, List.mem_append, or_and_right, exists_or, or_assoc],
   fun hn => h2.nodup (h1.nodup hn), h1.suffix.trans h2.suffix⟩

/-- what is reachable from the roots is reachable from what the search has visited, so the
finished part stays finished -/
theorem closed (hs : DfsSpec succ roots vis vis') (hc : ClosedBelow succ p vis) :
    ClosedBelow succ p vis' := by
  intro v hv hlt w hw
  rcases (hs.mem v).mp hv with hv | ⟨r, hr, hrv⟩
  · exact (hs.mem w).mpr (Or.inl (hc v hv hlt w hw))
  · exact (hs.mem w).mpr (Or.inr ⟨r, hr, hrv.trans hw⟩)

/-- the early return: a visited node below `p` adds nothing -/
theorem hit (hc : ClosedBelow succ p vis) (hp : h < p) (hmem : h ∈ vis) : DfsSpec succ [h] vis vis :=
  ⟨fun x => by
    simp only [List.mem_singleton, exists_eq_left, iff_self_or]
    exact hc h hmem hp x, id, List.suffix_refl _⟩

/-- an unvisited node: insert it, then search from its successors -/
theorem node (hmem : h ∉ vis) (hb : DfsSpec succ (succ h) (h :: vis) vis') : DfsSpec succ [h] vis vis' :=
  ⟨fun x => by
    simp only [List.mem_singleton, exists_eq_left]
    rw [hb.mem, GReach.head_iff, List.mem_cons]
    simp only [or_assoc, or_left_comm],
   fun hn => hb.nodup (List.nodup_cons.mpr ⟨hmem, hn⟩), (List.suffix_cons h vis).trans hb.suffix⟩

theorem length_le (hd : ∀ h s, s ∈ succ h → s < h) (hs : DfsSpec succ roots [] vis') {n : Nat}
    (hr : ∀ r ∈ roots, r < n) : vis'.length ≤ n := by
  refine nodup_lt_length n vis' (hs.nodup List.nodup_nil) (fun x hx => ?_)
  rcases (hs.mem x).mp hx with h | ⟨r, hr', hrx⟩
  · cases h
  · exact Nat.lt_of_le_of_lt (hrx.le hd) (hr r hr')

end DfsSpec

end WgslVerif
