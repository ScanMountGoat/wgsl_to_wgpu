import WgslVerif.Model.Consts
import WgslVerif.Lemmas.Types
/-
What `consts` and a successful `pipelineOverridableConstants` return.
-/
namespace WgslVerif

theorem consts_mem {m : Module} {rc : RConst} (h : rc ∈ consts m) :
    ∃ c ∈ m.consts, ∃ l, c.name = some rc.name ∧ c.init = some l ∧
      rc.ty = (constTypeAndValue l).1 ∧ rc.val = (constTypeAndValue l).2 := by
  obtain ⟨c, hc, hf⟩ := List.mem_filterMap.mp h
  split at hf
  · rename_i n l hn hi
    cases hf
    exact ⟨c, hc, l, hn, hi, rfl, rfl⟩
  · cases hf

/-- the struct exists iff the module has overrides; it has one field per override (its name, its Rust type, wrapped
in `Option` when it has a default) and one map entry per override, in the list its `hasInit` selects -/
theorem overrides_ok {m : Module} {r : Option ROverrides} (h : pipelineOverridableConstants m = .ok r) :
    r.isSome = !m.overrides.isEmpty ∧ ∀ ro, r = some ro →
      Pairs (fun ov f => ov.name = some f.1 ∧ ∃ ty, overrideFieldType m ov = .ok ty ∧
        f.2 = if ov.hasInit then RustTy.option ty else ty) m.overrides ro.fields ∧
      Pairs (fun ov e => overrideEntry m ov = .ok e) (m.overrides.filter fun ov => !ov.hasInit) ro.required ∧
      Pairs (fun ov e => overrideEntry m ov = .ok e) (m.overrides.filter fun ov => ov.hasInit) ro.optional ∧
      ro.mutable = !ro.optional.isEmpty := by
  obtain ⟨fields, hfields, h⟩ := Except.bind_ok h
  obtain ⟨required, hreq, h⟩ := Except.bind_ok h
  obtain ⟨optional, hopt, h⟩ := Except.bind_ok h
  have he : fields.isEmpty = m.overrides.isEmpty :=
    Bool.eq_iff_iff.mpr (by
      rw [List.isEmpty_iff_length_eq_zero, List.isEmpty_iff_length_eq_zero, (mapM_ok_iff.mp hfields).length_eq])
  cases hemp : m.overrides.isEmpty with
  | true =>
    rw [he, hemp] at h
    cases h
    exact ⟨rfl, nofun⟩
  | false =>
    rw [he, hemp] at h
    cases h
    refine ⟨rfl, fun ro hro => ?_⟩
    cases hro
    refine ⟨(mapM_ok_iff.mp hfields).imp fun ov f hf => ?_, mapM_ok_iff.mp hreq, mapM_ok_iff.mp hopt, rfl⟩
    obtain ⟨name, hn, hf⟩ := Except.bind_ok hf
    obtain ⟨ty, hty, hf⟩ := Except.bind_ok hf
    cases hf
    exact ⟨unwrapName_ok.mp hn, ty, hty, rfl⟩

end WgslVerif
