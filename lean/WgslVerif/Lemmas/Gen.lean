import WgslVerif.Model.Top
import WgslVerif.Lemmas.Structs
/-
Decomposition of a successful `gen` call into its parts: where the theorems about a whole output start.
-/
namespace WgslVerif

structure GenParts (m : Module) (o : Options) (src : String) (path : Option String) (out : Out) : Prop where
  data : ∃ data, getBindGroupData m = .ok data ∧ out.pipelineGroups = data.map (·.1) ∧
    bindGroupsModule m data (globalShaderStages m) = .ok (out.groups, out.bindModule)
  structs : structs m o = .ok out.structs
  consts : out.consts = consts m
  vertex : vertexStructMethods m = .ok out.vertex
  vertexEntries : vertexEntries m = .ok out.vertexEntries
  fragmentEntries : out.fragmentEntries = fragmentEntries m
  entryConsts : out.entryConsts = entryPointConstants m
  compute : out.compute = computeModule m
  overrides : pipelineOverridableConstants m = .ok out.overrides
  push : ∃ push, pushConstantRangeStages m (globalShaderStages m) = .ok push ∧
    out.pushStages = push.map (fun p => ("PUSH_CONSTANT_STAGES", p.2)) ∧
    out.pushRanges = pushRangesOf push
  source : out.source = sourceOf src path
  boiler : out.boiler = entryBoiler m ++ [("fn:create_shader_module", createShaderModuleText)]
  unknown : out.unknown = []
  keywords : ¬ (o.rustfmt = false ∧ (emittedIdents out).any (fun n => rustKeywords.contains n) = true)

theorem gen_ok {m : Module} {o : Options} {src : String} {path : Option String} {out : Out}
    (hg : gen m o src path = .ok out) : GenParts m o src path out := by
  obtain ⟨data, hdata, hg⟩ := Except.bind_ok hg
  obtain ⟨ss, hss, hg⟩ := Except.bind_ok hg
  obtain ⟨gb, hgb, hg⟩ := Except.bind_ok hg
  obtain ⟨vertex, hvx, hg⟩ := Except.bind_ok hg
  obtain ⟨ves, hves, hg⟩ := Except.bind_ok hg
  obtain ⟨push, hpush, hg⟩ := Except.bind_ok hg
  obtain ⟨ovs, hovs, hg⟩ := Except.bind_ok hg
  unfold finish at hg
  split at hg
  · cases hg
  · rename_i hk
    cases hg
    exact {
      data := ⟨data, hdata, rfl, hgb⟩, structs := hss, consts := rfl, vertex := hvx, vertexEntries := hves
      fragmentEntries := rfl, entryConsts := rfl, compute := rfl, overrides := hovs
      push := ⟨push, hpush, rfl, rfl⟩, source := rfl, boiler := rfl, unknown := rfl
      keywords := fun ⟨h1, h2⟩ => hk (by rw [h1, h2]; rfl) }

/-- options enter a successful generation only through the struct section, source and path only
through the source constant -/
theorem gen_ok_agree {m : Module} {o o' : Options} {src src' : String} {path path' : Option String}
    {out out' : Out} (hg : gen m o src path = .ok out) (hg' : gen m o' src' path' = .ok out') :
    out' = { out with structs := out'.structs, source := out'.source } := by
  have a := gen_ok hg
  have b := gen_ok hg'
  obtain ⟨d, hd, pg, bg⟩ := a.data
  obtain ⟨d', hd', pg', bg'⟩ := b.data
  cases hd.symm.trans hd'
  obtain ⟨hgr, hbm⟩ := Prod.mk.inj (Except.ok.inj (bg.symm.trans bg'))
  obtain ⟨p, hp, ps, pr⟩ := a.push
  obtain ⟨p', hp', ps', pr'⟩ := b.push
  cases hp.symm.trans hp'
  have hv := Except.ok.inj (a.vertex.symm.trans b.vertex)
  have hve := Except.ok.inj (a.vertexEntries.symm.trans b.vertexEntries)
  have hov := Except.ok.inj (a.overrides.symm.trans b.overrides)
  cases out; cases out'
  simp only [Out.mk.injEq, true_and]
  -- the fields of `Out` in their order, without `structs` and `source`
  exact ⟨b.consts.trans a.consts.symm, hov.symm, hgr.symm, hbm.symm, hv.symm, b.entryConsts.trans a.entryConsts.symm,
    hve.symm, b.fragmentEntries.trans a.fragmentEntries.symm, b.compute.trans a.compute.symm, ps'.trans ps.symm,
    pg'.trans pg.symm, pr'.trans pr.symm, b.boiler.trans a.boiler.symm, b.unknown.trans a.unknown.symm⟩

end WgslVerif
