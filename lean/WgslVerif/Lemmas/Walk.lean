import WgslVerif.Model.Stages
import WgslVerif.Lemmas.List
/-
Skeleton lemma for the stage traversal: the walker over the nested statement type, followed by
the expression loop, is a left fold of `evStep` over a flat *event list*
(`tick` = a statement visited, `call h` = `visited.insert(h)` + recursion, `use n` = the stage
added to variable `n`): `walkList_eq_foldl`, `foldl_exprStep`.  Any relation between pre- and
post-state that is reflexive, composes along `++`, and holds for the three primitive steps
therefore holds for the whole function body (`fn_ind`).
-/
namespace WgslVerif

inductive Ev
  | tick
  | call (h : Nat)
  | use (n : String)
  deriving DecidableEq, Repr

mutual
/-- events of one statement, in the order `update_stages_blocks` performs them -/
def evStmt : Stmt → List Ev
  | .call f _ => [.tick, .call f]
  | .block b => .tick :: evList b
  | .ifs a r => .tick :: (evList a ++ evList r)
  | .switch cs => .tick :: evCases cs
  | .loop b c => .tick :: (evList b ++ evList c)
  | .other _ => [.tick]
def evList : List Stmt → List Ev
  | [] => []
  | s :: ss => evStmt s ++ evList ss
def evCases : List (List Stmt) → List Ev
  | [] => []
  | c :: cs => evList c ++ evCases cs
end

/-- events of the expression loop of `update_stages` -/
def evExprs (m : Module) : List Expr → List Ev
  | [] => []
  | .global g :: es =>
    match (m.globals[g]?).bind (·.name) with
    | some n => .use n :: evExprs m es
    | none => evExprs m es
  | .callResult f :: es => .call f :: evExprs m es
  | .other :: es => evExprs m es

/-- all events of one `update_stages` invocation (after its own visit tick) -/
def evFn (m : Module) (f : Fn) : List Ev := evList f.body ++ evExprs m f.exprs

/-- function handles a function may recurse into, in visiting order -/
def callsOf (evs : List Ev) : List Nat :=
  evs.filterMap fun | .call h => some h | _ => none

def usesOf (evs : List Ev) : List String :=
  evs.filterMap fun | .use n => some n | _ => none

def ticksOf (evs : List Ev) : Nat := (evs.filter (· == .tick)).length

theorem callsOf_append (a b : List Ev) : callsOf (a ++ b) = callsOf a ++ callsOf b := by
  simp [callsOf, List.filterMap_append]
theorem usesOf_append (a b : List Ev) : usesOf (a ++ b) = usesOf a ++ usesOf b := by
  simp [usesOf, List.filterMap_append]
theorem ticksOf_append (a b : List Ev) : ticksOf (a ++ b) = ticksOf a + ticksOf b := by
  simp [ticksOf, List.filter_append]

theorem mem_callsOf {evs : List Ev} {h : Nat} : h ∈ callsOf evs ↔ Ev.call h ∈ evs :=
  mem_filterMap_inv fun e h => by cases e <;> simp

theorem mem_usesOf {evs : List Ev} {n : String} : n ∈ usesOf evs ↔ Ev.use n ∈ evs :=
  mem_filterMap_inv fun e n => by cases e <;> simp

/-- A relation indexed by event lists that the traversal preserves. -/
structure WalkRel (Q : List Ev → StState → StState → Prop) : Prop where
  refl : ∀ st, Q [] st st
  comp : ∀ {l1 l2 a b c}, Q l1 a b → Q l2 b c → Q (l1 ++ l2) a c
  tick : ∀ st, Q [.tick] st st.tickStmt

theorem WalkRel.and {Q1 Q2 : List Ev → StState → StState → Prop} (h1 : WalkRel Q1) (h2 : WalkRel Q2) :
    WalkRel (fun l a b => Q1 l a b ∧ Q2 l a b) where
  refl st := ⟨h1.refl st, h2.refl st⟩
  comp := fun ⟨a1, a2⟩ ⟨b1, b2⟩ => ⟨h1.comp a1 b1, h2.comp a2 b2⟩
  tick st := ⟨h1.tick st, h2.tick st⟩

/-- what `update_stages` does at one event -/
def evStep (stage : Stages) (rec : Nat → StState → StState) (st : StState) : Ev → StState
  | .tick => st.tickStmt
  | .call h => visitCall rec h st
  | .use n => { st with stages := st.stages.add n stage }

mutual
theorem walkStmt_eq_foldl (stage : Stages) (rec : Nat → StState → StState) :
    ∀ s st, walkStmt rec s st = (evStmt s).foldl (evStep stage rec) st
  | .call _ _, _ => rfl
  | .block b, st => by rw [walkStmt, walkList_eq_foldl stage rec b]; rfl
  | .ifs a r, st => by
      rw [walkStmt, walkList_eq_foldl stage rec a, walkList_eq_foldl stage rec r, ← List.foldl_append]; rfl
  | .switch cs, st => by rw [walkStmt, walkCases_eq_foldl stage rec cs]; rfl
  | .loop b c, st => by
      rw [walkStmt, walkList_eq_foldl stage rec b, walkList_eq_foldl stage rec c, ← List.foldl_append]; rfl
  | .other _, _ => rfl
theorem walkList_eq_foldl (stage : Stages) (rec : Nat → StState → StState) :
    ∀ l st, walkList rec l st = (evList l).foldl (evStep stage rec) st
  | [], _ => rfl
  | s :: ss, st => by
      rw [walkList, walkStmt_eq_foldl stage rec s, walkList_eq_foldl stage rec ss, evList, List.foldl_append]
theorem walkCases_eq_foldl (stage : Stages) (rec : Nat → StState → StState) :
    ∀ cs st, walkCases rec cs st = (evCases cs).foldl (evStep stage rec) st
  | [], _ => rfl
  | c :: cs, st => by
      rw [walkCases, walkList_eq_foldl stage rec c, walkCases_eq_foldl stage rec cs, evCases, List.foldl_append]
end

theorem foldl_exprStep (m : Module) (stage : Stages) (rec : Nat → StState → StState) :
    ∀ es st, es.foldl (exprStep m stage rec) st = (evExprs m es).foldl (evStep stage rec) st
  | [], _ => rfl
  | .global g :: es, st => by
      simp only [List.foldl_cons, evExprs, exprStep]
      cases (m.globals[g]?).bind (·.name) <;> exact foldl_exprStep m stage rec es _
  | .callResult _ :: es, st => foldl_exprStep m stage rec es _
  | .other :: es, st => foldl_exprStep m stage rec es _

mutual
theorem use_not_mem_evStmt (n : String) : ∀ s, Ev.use n ∉ evStmt s
  | .call f r => by simp [evStmt]
  | .block b => by simp [evStmt, use_not_mem_evList n b]
  | .ifs a r => by simp [evStmt, use_not_mem_evList n a, use_not_mem_evList n r]
  | .switch cs => by simp [evStmt, use_not_mem_evCases n cs]
  | .loop b c => by simp [evStmt, use_not_mem_evList n b, use_not_mem_evList n c]
  | .other t => by simp [evStmt]
theorem use_not_mem_evList (n : String) : ∀ l, Ev.use n ∉ evList l
  | [] => by simp [evList]
  | s :: ss => by simp [evList, use_not_mem_evStmt n s, use_not_mem_evList n ss]
theorem use_not_mem_evCases (n : String) : ∀ cs, Ev.use n ∉ evCases cs
  | [] => by simp [evCases]
  | c :: cs => by simp [evCases, use_not_mem_evList n c, use_not_mem_evCases n cs]
end

section
variable {Q : List Ev → StState → StState → Prop} (hQ : WalkRel Q)
variable (rec : Nat → StState → StState) (A : Nat → Prop)
variable (hcall : ∀ h, A h → ∀ st, Q [.call h] st (visitCall rec h st))
include hQ hcall

/-- the fold of `evStep` over an event list: its calls are in `A`, its `use` steps are given -/
theorem foldl_evStep_ind (stage : Stages) (evs : List Ev) (hA : ∀ h ∈ callsOf evs, A h)
    (huse : ∀ n, Ev.use n ∈ evs → ∀ st, Q [.use n] st { st with stages := st.stages.add n stage })
    (st : StState) : Q evs st (evs.foldl (evStep stage rec) st) := by
  refine foldl_rel hQ.refl hQ.comp _ evs (fun e he st => ?_) st
  cases e with
  | tick => exact hQ.tick st
  | call h => exact hcall h (hA h (mem_callsOf.mpr he)) st
  | use n => exact huse n he st

theorem walkCases_ind : ∀ (cs : List (List Stmt)) (st : StState), (∀ h ∈ callsOf (evCases cs), A h) →
    Q (evCases cs) st (walkCases rec cs st) := by
  intro cs st hA
  -- the stage only matters at `use` events, and statements have none: any stage will do
  rw [walkCases_eq_foldl Stages.none]
  exact foldl_evStep_ind hQ rec A hcall _ _ hA (fun n hn => absurd hn (use_not_mem_evCases n cs)) st

/-- body + expression loop of one `update_stages` invocation (after its own visit tick) -/
theorem fn_ind (m : Module) (stage : Stages)
    (huse : ∀ n st, Q [.use n] st { st with stages := st.stages.add n stage })
    (f : Fn) (st : StState) (hA : ∀ h ∈ callsOf (evFn m f), A h) :
    Q (evFn m f) st (f.exprs.foldl (exprStep m stage rec) (walkList rec f.body st)) := by
  rw [foldl_exprStep, walkList_eq_foldl stage, ← List.foldl_append]
  exact foldl_evStep_ind hQ rec A hcall stage _ hA (fun n _ => huse n) st

end

end WgslVerif
