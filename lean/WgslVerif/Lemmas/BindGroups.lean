import WgslVerif.Model.BindGroups
import WgslVerif.Lemmas.Types
/-
What a successful call of `bindingTyOf`, `layoutEntry` and `groupFacts` (`Model/BindGroups.lean`) returns.
-/
namespace WgslVerif

theorem bindingTyOf_ok {m : Module} {b : GroupBinding} {t : Ty} :
    bindingTyOf m b = .ok t ↔ m.types[b.ty]? = some t :=
  typeAt_ok

theorem layoutEntry_ok {m : Module} {gs : StageMap} {b : GroupBinding} {e : REntry}
    (h : layoutEntry m gs b = .ok e) :
    e.binding = b.binding ∧ (∀ n, b.name = some n → e.vis = gs.getD n) ∧
      ∃ ty, m.types[b.ty]? = some ty ∧ bindingType ty b.space = .ok e.ty := by
  obtain ⟨ty, hty, h⟩ := Except.bind_ok h
  obtain ⟨bt, hbt, h⟩ := Except.bind_ok h
  cases h
  refine ⟨rfl, fun n hn => ?_, ty, bindingTyOf_ok.mp hty, hbt⟩
  simp only [hn, Option.bind_some, StageMap.getD]
  cases gs.get? n <;> rfl

theorem groupFacts_ok {m : Module} {gs : StageMap} {no : Nat} {bs : List GroupBinding} {g : RGroup}
    (h : groupFacts m gs no bs = .ok g) :
    g.no = no ∧ layoutFields m bs = .ok g.layoutFields ∧ bs.mapM (layoutEntry m gs) = .ok g.entries ∧
    bindEntries m bs = .ok g.bindEntries ∧
    (g.layoutFnDesc = no ∧ g.fromLayoutStruct = no ∧ g.fromDesc = no ∧ g.setIndex = no) := by
  obtain ⟨lf, hlf, h⟩ := Except.bind_ok h
  obtain ⟨ents, hents, h⟩ := Except.bind_ok h
  obtain ⟨bes, hbes, h⟩ := Except.bind_ok h
  cases h
  exact ⟨rfl, hlf, hents, hbes, rfl, rfl, rfl, rfl⟩

end WgslVerif
