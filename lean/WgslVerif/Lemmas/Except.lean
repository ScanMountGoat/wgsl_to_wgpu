import WgslVerif.Lemmas.List
/-
`List.mapM` / `List.filterMapM` in the `Except` monad.  A successful `mapM` relates input and
output position by position (`Pairs`); everything else is a fact about `Pairs`.
-/
namespace WgslVerif

theorem Except.bind_ok {ε α β : Type} {x : Except ε α} {f : α → Except ε β} {b : β}
    (h : (x >>= f) = .ok b) : ∃ a, x = .ok a ∧ f a = .ok b := by
  cases x with
  | error e => cases h
  | ok a => exact ⟨a, rfl, h⟩

theorem Except.ite_error_ok {ε α : Type} {c : Prop} [Decidable c] {e : ε} {x : Except ε α} {a : α}
    (h : (if c then .error e else x) = .ok a) : ¬ c ∧ x = .ok a := by
  split at h
  · cases h
  · exact ⟨‹_›, h⟩

/-- two lists related position by position -/
inductive Pairs {α β : Type} (R : α → β → Prop) : List α → List β → Prop
  | nil : Pairs R [] []
  | cons {a : α} {b : β} {as : List α} {bs : List β} : R a b → Pairs R as bs → Pairs R (a :: as) (b :: bs)

namespace Pairs
variable {α β γ : Type} {R : α → β → Prop} {l : List α} {r : List β}

theorem length_eq (h : Pairs R l r) : r.length = l.length := by
  induction h with
  | nil => rfl
  | cons _ _ ih => simp [ih]

theorem getElem (h : Pairs R l r) : ∀ i (hi : i < l.length) (hr : i < r.length), R l[i] r[i] := by
  induction h with
  | nil => intro i hi; cases hi
  | cons hab _ ih =>
    intro i hi hr
    cases i with
    | zero => exact hab
    | succ i => exact ih i (by simpa using hi) (by simpa using hr)

theorem mem_right (h : Pairs R l r) : ∀ b ∈ r, ∃ a ∈ l, R a b := by
  intro b hb
  obtain ⟨i, hr, rfl⟩ := List.getElem_of_mem hb
  have hi : i < l.length := h.length_eq ▸ hr
  exact ⟨l[i], List.getElem_mem hi, h.getElem i hi hr⟩

theorem mem_left (h : Pairs R l r) : ∀ a ∈ l, ∃ b ∈ r, R a b := by
  intro a ha
  obtain ⟨i, hi, rfl⟩ := List.getElem_of_mem ha
  have hr : i < r.length := h.length_eq ▸ hi
  exact ⟨r[i], List.getElem_mem hr, h.getElem i hi hr⟩

theorem zip (h : Pairs R l r) : ∀ ab ∈ l.zip r, R ab.1 ab.2 := by
  intro ab hab
  obtain ⟨i, _, rfl⟩ := List.getElem_of_mem hab
  rw [List.getElem_zip]
  exact h.getElem i _ _

theorem getLast? (h : Pairs R l r) {a : α} (ha : l.getLast? = some a) : ∃ b, r.getLast? = some b ∧ R a b := by
  rw [List.getLast?_eq_getElem?] at ha
  obtain ⟨hi, rfl⟩ := List.getElem?_eq_some_iff.mp ha
  have hr : l.length - 1 < r.length := h.length_eq ▸ hi
  rw [List.getLast?_eq_getElem?, h.length_eq]
  exact ⟨r[l.length - 1], List.getElem?_eq_getElem hr, h.getElem _ hi hr⟩

theorem imp {S : α → β → Prop} (h : Pairs R l r) (hs : ∀ a b, R a b → S a b) : Pairs S l r := by
  induction h with
  | nil => exact .nil
  | cons hab _ ih => exact .cons (hs _ _ hab) ih

theorem map_eq {p : β → γ} {q : α → γ} (h : Pairs R l r) (hq : ∀ a ∈ l, ∀ b, R a b → p b = q a) :
    r.map p = l.map q := by
  induction h with
  | nil => rfl
  | cons hab _ ih =>
    rw [List.map_cons, List.map_cons, hq _ (by simp) _ hab, ih fun a ha => hq a (List.mem_cons_of_mem _ ha)]

/-- two relations out of the same list compose to one between the two images -/
theorem join {δ κ : Type} {S : κ → δ → Prop} {T : β → δ → Prop} {g : κ → α} :
    ∀ {k : List κ} {r : List β} {t : List δ}, Pairs R (k.map g) r → Pairs S k t →
      (∀ a ∈ k, ∀ b c, R (g a) b → S a c → T b c) → Pairs T r t
  | [], _, _, .nil, .nil, _ => .nil
  | _ :: _, _, _, .cons h1 t1, .cons h2 t2, h =>
    .cons (h _ (by simp) _ _ h1 h2) (join t1 t2 fun a ha => h a (List.mem_cons_of_mem _ ha))

end Pairs

variable {α β γ ε : Type}

theorem mapM_ok_iff {f : α → Except ε β} {l : List α} {r : List β} :
    l.mapM f = .ok r ↔ Pairs (fun a b => f a = .ok b) l r := by
  induction l generalizing r with
  | nil =>
    exact ⟨fun h => by cases h; exact .nil, fun h => by cases h; rfl⟩
  | cons a l ih =>
    rw [List.mapM_cons]
    constructor
    · intro h
      obtain ⟨b, hb, h⟩ := Except.bind_ok h
      obtain ⟨bs, hbs, h⟩ := Except.bind_ok h
      cases h
      exact .cons hb (ih.mp hbs)
    · intro h
      cases h with
      | cons hb hbs =>
        rw [hb, ih.mpr hbs]
        rfl

/-- `filterMapM` is `mapM` followed by dropping the `none`s -/
theorem filterMapM_eq_mapM {f : α → Except ε (Option β)} (l : List α) :
    l.filterMapM f = (l.mapM f).map (List.filterMap id) := by
  induction l with
  | nil => rfl
  | cons a l ih =>
    rw [List.filterMapM_cons, List.mapM_cons, ih]
    cases f a with
    | error e => rfl
    | ok ob => cases ob <;> cases l.mapM f <;> rfl

theorem filterMapM_ok_iff {f : α → Except ε (Option β)} {l : List α} {r : List β} :
    l.filterMapM f = .ok r ↔ ∃ obs, Pairs (fun a ob => f a = .ok ob) l obs ∧ r = obs.filterMap id := by
  rw [filterMapM_eq_mapM]
  constructor
  · intro h
    cases hm : l.mapM f with
    | error e => rw [hm] at h; cases h
    | ok obs => rw [hm] at h; cases h; exact ⟨obs, mapM_ok_iff.mp hm, rfl⟩
  · rintro ⟨obs, h, rfl⟩
    rw [mapM_ok_iff.mpr h]
    rfl

theorem mapM_total {f : α → Except ε β} {l : List α} (h : ∀ a ∈ l, ∃ b, f a = .ok b) : ∃ r, l.mapM f = .ok r := by
  induction l with
  | nil => exact ⟨[], rfl⟩
  | cons a l ih =>
    obtain ⟨b, hb⟩ := h a (by simp)
    obtain ⟨r, hr⟩ := ih fun x hx => h x (List.mem_cons_of_mem _ hx)
    exact ⟨b :: r, mapM_ok_iff.mpr (.cons hb (mapM_ok_iff.mp hr))⟩

theorem mapM_ok_mem {f : α → Except ε β} {l : List α} {r : List β} (h : l.mapM f = .ok r) :
    ∀ b ∈ r, ∃ a ∈ l, f a = .ok b :=
  (mapM_ok_iff.mp h).mem_right

theorem mapM_ok_map_eq {f : α → Except ε β} {p : β → γ} {q : α → γ} {l : List α} {r : List β}
    (h : l.mapM f = .ok r) (hq : ∀ a ∈ l, ∀ b, f a = .ok b → p b = q a) : r.map p = l.map q :=
  (mapM_ok_iff.mp h).map_eq hq

theorem filterMapM_ok_map {f : α → Except ε (Option β)} {p : β → γ} {g : α → Option γ} {l : List α} {r : List β}
    (h : l.filterMapM f = .ok r) (hg : ∀ a ∈ l, ∀ ob, f a = .ok ob → ob.map p = g a) :
    r.map p = l.filterMap g := by
  obtain ⟨obs, hobs, rfl⟩ := filterMapM_ok_iff.mp h
  simpa [List.map_filterMap, List.filterMap_map] using congrArg (List.filterMap id) (hobs.map_eq hg)

/-- a successful `filterMapM` whose element function is `pure ∘ g` on success is `filterMap g` -/
theorem filterMapM_ok_eq_filterMap {α β ε : Type} {f : α → Except ε (Option β)} {g : α → Option β} :
    ∀ {l : List α} {r : List β}, l.filterMapM f = .ok r →
      (∀ a ∈ l, ∀ ob, f a = .ok ob → ob = g a) → r = l.filterMap g := by
  intro l r h hg
  rw [← List.map_id r]
  exact filterMapM_ok_map h fun a ha ob hob => Option.map_id_apply.trans (hg a ha ob hob)

theorem filterMapM_ok_mem {f : α → Except ε (Option β)} {l : List α} {r : List β}
    (h : l.filterMapM f = .ok r) : ∀ b ∈ r, ∃ a ∈ l, f a = .ok (some b) := by
  obtain ⟨obs, hobs, rfl⟩ := filterMapM_ok_iff.mp h
  intro b hb
  exact hobs.mem_right (some b) (by simpa using hb)

end WgslVerif
