import WgslVerif.Lemmas.Stages
/-
Per-entry-point and whole-module consequences of the traversal lemmas, and the bridge between
event lists and the statement-level specification (`Occurs`, `CallsFn`, `UsesFn`).
-/
namespace WgslVerif

/-- a call to `g` occurs somewhere inside statement `s` (all block-carrying constructors) -/
inductive Occurs (g : Nat) : Stmt → Prop
  | call (r) : Occurs g (.call g r)
  | block {b s} : s ∈ b → Occurs g s → Occurs g (.block b)
  | ifAcc {a r s} : s ∈ a → Occurs g s → Occurs g (.ifs a r)
  | ifRej {a r s} : s ∈ r → Occurs g s → Occurs g (.ifs a r)
  | switch {cs c s} : c ∈ cs → s ∈ c → Occurs g s → Occurs g (.switch cs)
  | loopBody {b c s} : s ∈ b → Occurs g s → Occurs g (.loop b c)
  | loopCont {b c s} : s ∈ c → Occurs g s → Occurs g (.loop b c)

/-- `f` calls `h`: through a call statement anywhere in its body or a call result among its
expressions -/
def CallsFn (f : Fn) (h : Nat) : Prop :=
  (∃ s ∈ f.body, Occurs h s) ∨ Expr.callResult h ∈ f.exprs

/-- `f` has an expression referring to the module-scope variable named `n` -/
def UsesFn (m : Module) (f : Fn) (n : String) : Prop :=
  ∃ g, Expr.global g ∈ f.exprs ∧ (m.globals[g]?).bind (·.name) = some n

mutual
theorem call_mem_evStmt (g : Nat) : ∀ s, Ev.call g ∈ evStmt s ↔ Occurs g s
  | .call f r => by
      simp only [evStmt, List.mem_cons, List.not_mem_nil, or_false, reduceCtorEq, false_or,
        Ev.call.injEq]
      constructor
      · rintro rfl; exact .call r
      · intro h; cases h; rfl
  | .block b => by
      simp only [evStmt, List.mem_cons, reduceCtorEq, false_or]
      rw [call_mem_evList g b]
      constructor
      · rintro ⟨s, hs, h⟩; exact .block hs h
      · intro h; cases h with | block hs h => exact ⟨_, hs, h⟩
  | .ifs a r => by
      simp only [evStmt, List.mem_cons, reduceCtorEq, false_or, List.mem_append]
      rw [call_mem_evList g a, call_mem_evList g r]
      constructor
      · rintro (⟨s, hs, h⟩ | ⟨s, hs, h⟩)
        · exact .ifAcc hs h
        · exact .ifRej hs h
      · intro h
        cases h with
        | ifAcc hs h => exact Or.inl ⟨_, hs, h⟩
        | ifRej hs h => exact Or.inr ⟨_, hs, h⟩
  | .switch cs => by
      simp only [evStmt, List.mem_cons, reduceCtorEq, false_or]
      rw [call_mem_evCases g cs]
      constructor
      · rintro ⟨c, hc, s, hs, h⟩; exact .switch hc hs h
      · intro h; cases h with | switch hc hs h => exact ⟨_, hc, _, hs, h⟩
  | .loop b c => by
      simp only [evStmt, List.mem_cons, reduceCtorEq, false_or, List.mem_append]
      rw [call_mem_evList g b, call_mem_evList g c]
      constructor
      · rintro (⟨s, hs, h⟩ | ⟨s, hs, h⟩)
        · exact .loopBody hs h
        · exact .loopCont hs h
      · intro h
        cases h with
        | loopBody hs h => exact Or.inl ⟨_, hs, h⟩
        | loopCont hs h => exact Or.inr ⟨_, hs, h⟩
  | .other t => by
      simp only [evStmt, List.mem_cons, List.not_mem_nil, or_false, reduceCtorEq, false_iff]
      intro h; cases h
theorem call_mem_evList (g : Nat) : ∀ l, Ev.call g ∈ evList l ↔ ∃ s, s ∈ l ∧ Occurs g s
  | [] => by simp [evList]
  | s :: ss => by
      simp only [evList, List.mem_append, List.mem_cons, call_mem_evStmt g s, call_mem_evList g ss,
        exists_eq_or_imp]
theorem call_mem_evCases (g : Nat) : ∀ cs, Ev.call g ∈ evCases cs ↔ ∃ c, c ∈ cs ∧ ∃ s, s ∈ c ∧ Occurs g s
  | [] => by simp [evCases]
  | c :: cs => by
      simp only [evCases, List.mem_append, List.mem_cons, call_mem_evList g c, call_mem_evCases g cs,
        exists_eq_or_imp]
end

theorem call_mem_evExprs (m : Module) (h : Nat) :
    ∀ es, Ev.call h ∈ evExprs m es ↔ Expr.callResult h ∈ es
  | [] => by simp [evExprs]
  | .global g :: es => by
      simp only [evExprs, List.mem_cons, reduceCtorEq, false_or, ← call_mem_evExprs m h es]
      cases (m.globals[g]?).bind (·.name) <;> simp
  | .callResult _ :: es => by simp [evExprs, call_mem_evExprs m h es]
  | .other :: es => by simp [evExprs, call_mem_evExprs m h es]

theorem use_mem_evExprs (m : Module) (n : String) :
    ∀ es, Ev.use n ∈ evExprs m es ↔
      ∃ g, Expr.global g ∈ es ∧ (m.globals[g]?).bind (·.name) = some n
  | [] => by simp [evExprs]
  | .global g :: es => by
      simp only [evExprs, List.mem_cons, Expr.global.injEq, or_and_right, exists_or, exists_eq_left,
        ← use_mem_evExprs m n es]
      cases (m.globals[g]?).bind (·.name) <;> simp [eq_comm]
  | .callResult _ :: es => by simp [evExprs, use_mem_evExprs m n es]
  | .other :: es => by simp [evExprs, use_mem_evExprs m n es]

theorem mem_callsOf_evFn (m : Module) (f : Fn) (h : Nat) :
    h ∈ callsOf (evFn m f) ↔ CallsFn f h := by
  rw [mem_callsOf, evFn, List.mem_append, call_mem_evList, call_mem_evExprs]
  rfl

theorem mem_usesOf_evFn (m : Module) (f : Fn) (n : String) :
    n ∈ usesOf (evFn m f) ↔ UsesFn m f n := by
  rw [mem_usesOf, evFn, List.mem_append, use_mem_evExprs]
  exact or_iff_right (use_not_mem_evList n f.body)

theorem mem_succOf {m : Module} {a b : Nat} :
    b ∈ succOf m a ↔ ∃ f, m.functions[a]? = some f ∧ CallsFn f b := by
  unfold succOf
  cases m.functions[a]? <;> simp [mem_callsOf_evFn]

/-- what an entry point statically uses, in event terms -/
def EntryUses (m : Module) (e : EntryPoint) (n : String) : Prop :=
  n ∈ usesOf (evFn m e.fn) ∨ ∃ s ∈ callsOf (evFn m e.fn), ∃ x, Reach m s x ∧ UsesH m x n

/-- one iteration of the loop over the entry points, in closed form: `new` lists, without
repetition, the arena functions `e` reaches; each costs one `update_stages` invocation and its own
statements; the stage of `e` is added to the variables `e` statically uses -/
theorem entryStep_spec (m : Module) (hv : CallsEarlier m) (e : EntryPoint) (he : e ∈ m.entries)
    (st : StState) :
    ∃ (new : List Nat) (names : List String),
      DfsSpec (succOf m) (callsOf (evFn m e.fn)) [] new ∧
      (entryStep m st e).stages = names.foldl (fun s n => s.add n (Stages.ofStage e.stage)) st.stages ∧
      (∀ n, n ∈ names ↔ EntryUses m e n) ∧
      (entryStep m st e).fnVisits = st.fnVisits + 1 + new.length ∧
      (entryStep m st e).stmtVisits =
        st.stmtVisits + ticksOf (evFn m e.fn) + (new.map (ticksH m)).sum := by
  -- an entry point is walked at level `functions.length`, with fuel `functions.length + 1`, from an empty visited list
  obtain ⟨kV, new, names, v, f, t, s, u⟩ := updateStages_spec m (Stages.ofStage e.stage) hv.arena
    m.functions.length m.functions.length e.fn { st with visited := [] } (Nat.le_refl _) (Nat.le_refl _)
    (hv.entry e he)
  have kV : DfsSpec (succOf m) _ [] new := v.trans (List.append_nil _) ▸ kV (ClosedBelow.nil _)
  refine ⟨new, names, kV, s, fun n => ?_, f, t⟩
  simp only [u, EntryUses, kV.mem, List.not_mem_nil, false_or]
  exact or_congr_right ⟨fun ⟨x, ⟨s, hs, hr⟩, hu⟩ => ⟨s, hs, x, hr, hu⟩,
    fun ⟨s, hs, x, hr, hu⟩ => ⟨x, ⟨s, hs, hr⟩, hu⟩⟩

theorem entries_fold_spec (m : Module) (hv : CallsEarlier m) :
    ∀ (es : List EntryPoint), (∀ e ∈ es, e ∈ m.entries) → ∀ (st : StState),
    (∀ n g, ((es.foldl (entryStep m) st).stages.getD n).has g = true ↔
      ((st.stages.getD n).has g = true ∨ ∃ e ∈ es, e.stage = g ∧ EntryUses m e n)) ∧
    (∀ n, ((es.foldl (entryStep m) st).stages.get? n).isSome = true ↔
      ((st.stages.get? n).isSome = true ∨ ∃ e ∈ es, EntryUses m e n)) ∧
    (es.foldl (entryStep m) st).fnVisits ≤ st.fnVisits + es.length * (1 + m.functions.length) := by
  intro es
  induction es with
  | nil => intro _ st; simp
  | cons e es ih =>
    intro hsub st
    have he := hsub e (by simp)
    obtain ⟨new, names, d1, s1, u1, f1, _⟩ := entryStep_spec m hv e he st
    have hnew : new.length ≤ m.functions.length := d1.length_le hv.arena (hv.entry e he)
    obtain ⟨s2, p2, f2⟩ := ih (fun x hx => hsub x (by simp [hx])) (entryStep m st e)
    simp only [List.foldl_cons, List.mem_cons, exists_eq_or_imp, List.length_cons]
    refine ⟨fun n g => ?_, fun n => ?_, ?_⟩
    -- after the tail: before ∨ the tail adds it; after `e`: before ∨ (the stage of `e` ∧ `e` uses `n`)
    · rw [s2 n g, s1, StageMap.has_foldl_add, Stages.has_ofStage, u1, or_assoc]
    · rw [p2 n, s1, StageMap.isSome_foldl_add, u1, or_assoc]
    · rw [Nat.succ_mul]; omega

end WgslVerif
