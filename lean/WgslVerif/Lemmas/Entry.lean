import WgslVerif.Model.Entry
import WgslVerif.Lemmas.Structs
/-
What a successful call of the vertex-input functions of `Model.Entry` returns.
-/
namespace WgslVerif

/-- the fields of a successful `locatedMembers` are the `@location` members with their locations (whatever `g`
projects from them: C07 takes two different tuples), and they are all the members that are not builtins -/
theorem locatedMembers_ok {members : List Member} {fields : List (Nat × Member)}
    (h : locatedMembers members = .ok fields) :
    (∀ {γ : Type} (g : Nat → Member → γ), fields.map (fun lm => g lm.1 lm.2) =
      members.filterMap fun mem => match mem.binding with
        | some (.location l) => some (g l mem)
        | _ => none) ∧
    fields.map (·.2) = members.filter fun mem => !isBuiltinMember mem := by
  fun_induction locatedMembers members generalizing fields with
  | case1 =>
    cases h
    exact ⟨fun _ => rfl, rfl⟩
  | case2 mem rest hb => cases h
  | case3 mem rest t hb ih => simpa [isBuiltinMember, hb] using ih h
  | case4 mem rest l hb ih =>
    obtain ⟨r, hr, h⟩ := Except.bind_ok h
    cases h
    simpa [isBuiltinMember, hb] using ih hr

def isStructArg (m : Module) (a : Nat × Option Binding) : Bool :=
  match m.types[a.1]? with
  | some t => match t.inner with | .struct .. => true | _ => false
  | none => false

theorem vertexInputOf_some {m : Module} {a : Nat × Option Binding} {vi : VertexInput}
    (h : vertexInputOf m a = .ok (some vi)) :
    ∃ ty members span, m.types[a.1]? = some ty ∧ ty.inner = .struct members span ∧ ty.name = some vi.name ∧
      locatedMembers members = .ok vi.fields := by
  unfold vertexInputOf at h
  split at h
  · rename_i ty hty
    split at h
    · rename_i members span hi
      obtain ⟨name, hn, h⟩ := Except.bind_ok h
      obtain ⟨fields, hf, h⟩ := Except.bind_ok h
      cases h
      exact ⟨ty, members, span, hty, hi, unwrapName_ok.mp hn, hf⟩
    · cases h
  · cases h

theorem vertexInputOf_isSome {m : Module} {a : Nat × Option Binding} {ob : Option VertexInput}
    (h : vertexInputOf m a = .ok ob) : ob.isSome = isStructArg m a := by
  unfold vertexInputOf at h
  unfold isStructArg
  split at h
  · split at h
    · obtain ⟨_, _, h⟩ := Except.bind_ok h
      obtain ⟨_, _, h⟩ := Except.bind_ok h
      cases h
      simp only [*, Option.isSome_some]
    · cases h
      simp only [*, Option.isSome_none]
  · cases h

/-- a successful `vertexEntryStructs` keeps, in order, exactly the struct arguments -/
theorem vertexEntryStructs_names {m : Module} {e : EntryPoint} {inputs : List VertexInput}
    (h : vertexEntryStructs m e = .ok inputs) :
    inputs.map (fun i => some i.name) =
      ((e.fn.args.filter fun a => a.2.isNone).filter (isStructArg m)).map fun a => (m.types[a.1]?).bind (·.name) := by
  refine (filterMapM_ok_map (g := fun a => if isStructArg m a then some ((m.types[a.1]?).bind (·.name)) else none)
    h (fun a _ ob hob => ?_)).trans ?_
  · rw [← vertexInputOf_isSome hob]
    cases ob with
    | none => rfl
    | some vi =>
      obtain ⟨ty, _, _, hty, _, hn, _⟩ := vertexInputOf_some hob
      simp [hty, hn]
  · rw [← List.filterMap_filter, List.filterMap_eq_map']

theorem vertexEntryStructs_mem {m : Module} {e : EntryPoint} {inputs : List VertexInput}
    (h : vertexEntryStructs m e = .ok inputs) {i : VertexInput} (hi : i ∈ inputs) :
    ∃ a ∈ e.fn.args, a.2 = none ∧ vertexInputOf m a = .ok (some i) := by
  obtain ⟨a, ha, hfa⟩ := filterMapM_ok_mem h i hi
  obtain ⟨ham, hab⟩ := List.mem_filter.mp ha
  exact ⟨a, ham, Option.isNone_iff_eq_none.mp hab, hfa⟩

theorem dedupByName_sublist (l : List VertexInput) : (dedupByName l).Sublist l := by
  fun_induction dedupByName l with
  | case1 => exact .slnil
  | case2 a => exact .refl _
  | case3 a b rest _ ih => exact ih.trans (.cons_cons a (.cons b (.refl rest)))
  | case4 a b rest _ ih => exact .cons_cons a ih

theorem dedupByName_names (l : List VertexInput) : ∀ x ∈ l, x.name ∈ (dedupByName l).map (·.name) := by
  fun_induction dedupByName l with
  | case1 => exact fun _ hx => nomatch hx
  | case2 a => exact fun _ hx => List.mem_map_of_mem hx
  | case3 a b rest heq ih =>
    rw [List.forall_mem_cons] at ih
    rw [List.forall_mem_cons, List.forall_mem_cons]
    exact ⟨ih.1, heq ▸ ih.1, ih.2⟩
  | case4 a b rest hne ih =>
    rw [List.forall_mem_cons, List.map_cons]
    exact ⟨List.mem_cons_self, fun x hx => List.mem_cons_of_mem _ (ih x hx)⟩

theorem dedupByName_strict (l : List VertexInput) (h : l.Pairwise (fun a b => a.name ≤ b.name)) :
    (dedupByName l).Pairwise (fun a b => a.name < b.name) := by
  fun_induction dedupByName l with
  | case1 => exact List.Pairwise.nil
  | case2 a => exact List.pairwise_singleton _ _
  | case3 a b rest heq ih =>
    exact ih (h.sublist (.cons_cons a (.cons b (.refl rest))))
  | case4 a b rest hne ih =>
    obtain ⟨ha, hbr⟩ := List.pairwise_cons.mp h
    refine List.pairwise_cons.mpr ⟨fun z hz => ?_, ih hbr⟩
    have hbz : b.name ≤ z.name := by
      rcases List.mem_cons.mp ((dedupByName_sublist _).subset hz) with rfl | hr
      · exact String.le_refl _
      · exact (List.pairwise_cons.mp hbr).1 z hr
    -- otherwise z ≤ a, hence b ≤ a, hence a = b by antisymmetry
    exact String.not_le.mp fun hza => hne (String.le_antisymm (ha b List.mem_cons_self) (String.le_trans hbz hza))

theorem getVertexInputStructs_ok {m : Module} {inputs : List VertexInput}
    (h : getVertexInputStructs m = .ok inputs) :
    ∃ per, (m.entries.filter fun e => e.stage == .vertex).mapM (vertexEntryStructs m) = .ok per ∧
      inputs = dedupByName (per.flatten.mergeSort fun a b => decide (a.name ≤ b.name)) := by
  obtain ⟨per, hper, h⟩ := Except.bind_ok h
  cases h
  exact ⟨per, hper, rfl⟩

/-- `get_vertex_input_structs` sorts by name and removes adjacent duplicates: the result is strictly sorted -/
theorem getVertexInputStructs_strict {m : Module} {inputs : List VertexInput}
    (h : getVertexInputStructs m = .ok inputs) : inputs.Pairwise (fun a b => a.name < b.name) := by
  obtain ⟨per, _, rfl⟩ := getVertexInputStructs_ok h
  have := List.pairwise_mergeSort (le := fun (a b : VertexInput) => decide (a.name ≤ b.name))
    (fun a b c hab hbc => by
      simp only [decide_eq_true_eq] at hab hbc ⊢
      exact String.le_trans hab hbc)
    (fun a b => by
      simp only [Bool.or_eq_true, decide_eq_true_eq]
      exact String.le_total _ _) per.flatten
  exact dedupByName_strict _ (this.imp of_decide_eq_true)

/-- every vertex input struct the generator emits methods for is a struct parameter of some vertex entry -/
theorem getVertexInputStructs_mem {m : Module} {inputs : List VertexInput}
    (h : getVertexInputStructs m = .ok inputs) (inp : VertexInput) (hi : inp ∈ inputs) :
    ∃ e ∈ m.entries, e.stage = .vertex ∧ ∃ a ∈ e.fn.args, a.2 = none ∧ vertexInputOf m a = .ok (some inp) := by
  obtain ⟨per, hper, rfl⟩ := getVertexInputStructs_ok h
  obtain ⟨l, hl, hil⟩ := List.mem_flatten.mp (List.mem_mergeSort.mp ((dedupByName_sublist _).subset hi))
  obtain ⟨e, he, hfe⟩ := mapM_ok_mem hper l hl
  obtain ⟨hem, hst⟩ := List.mem_filter.mp he
  exact ⟨e, hem, by simpa using hst, vertexEntryStructs_mem hfe hil⟩

/-- every struct parameter of a vertex entry is represented, by name, among the vertex input structs -/
theorem getVertexInputStructs_complete {m : Module} {inputs : List VertexInput}
    (h : getVertexInputStructs m = .ok inputs) {e : EntryPoint}
    (he : e ∈ m.entries.filter fun e => e.stage == .vertex) {l : List VertexInput}
    (hl : vertexEntryStructs m e = .ok l) {i : VertexInput} (hi : i ∈ l) : i.name ∈ inputs.map (·.name) := by
  obtain ⟨per, hper, rfl⟩ := getVertexInputStructs_ok h
  obtain ⟨l', hl', hfl⟩ := (mapM_ok_iff.mp hper).mem_left e he
  cases hl.symm.trans hfl
  exact dedupByName_names _ i (List.mem_mergeSort.mpr (List.mem_flatten.mpr ⟨l, hl', hi⟩))

/-- the attribute function of `vertexStructMethods` -/
def attrOf (m : Module) (sname : String) (lm : Nat × Member) : G RAttr := do
  let fname ← unwrapName "member-name" lm.2.name
  let ty ← typeAt m lm.2.ty
  let fmt ← vertexFormat ty
  pure ({ format := fmt, ofStruct := sname, field := fname, location := lm.1 } : RAttr)

theorem attrOf_ok {m : Module} {sname : String} {lm : Nat × Member} {a : RAttr} (h : attrOf m sname lm = .ok a) :
    ∃ ty, lm.2.name = some a.field ∧ m.types[lm.2.ty]? = some ty ∧ vertexFormat ty = .ok a.format ∧
      a.ofStruct = sname ∧ a.location = lm.1 := by
  obtain ⟨fname, hfn, h⟩ := Except.bind_ok h
  obtain ⟨ty, hty, h⟩ := Except.bind_ok h
  obtain ⟨fmt, hfmt, h⟩ := Except.bind_ok h
  cases h
  exact ⟨ty, unwrapName_ok.mp hfn, typeAt_ok.mp hty, hfmt, rfl, rfl⟩

theorem vertexStructMethods_ok {m : Module} {vs : List RVertex} (h : vertexStructMethods m = .ok vs) :
    ∃ inputs, getVertexInputStructs m = .ok inputs ∧ vs.map (·.name) = inputs.map (·.name) ∧
      ∀ v ∈ vs, ∃ inp ∈ inputs, ∃ attrs, inp.fields.mapM (attrOf m inp.name) = .ok attrs ∧
        v = { name := inp.name, count := inp.fields.length, attrs := attrs, strideOf := inp.name, attrsOf := inp.name } := by
  obtain ⟨inputs, hin, h⟩ := Except.bind_ok h
  refine ⟨inputs, hin, mapM_ok_map_eq h (fun inp _ v hv => ?_), fun v hv => ?_⟩
  · obtain ⟨attrs, _, hv⟩ := Except.bind_ok hv
    cases hv
    rfl
  · obtain ⟨inp, hinp, hf⟩ := mapM_ok_mem h v hv
    obtain ⟨attrs, hattrs, hf⟩ := Except.bind_ok hf
    cases hf
    exact ⟨inp, hinp, attrs, hattrs, rfl⟩

/-- the helper emitted for vertex entry `e` whose struct parameters are `inputs` -/
abbrev vertexEntryOf (m : Module) (e : EntryPoint) (inputs : List VertexInput) : RVertexEntry :=
  { fnName := e.name ++ "_entry"
    n := inputs.length
    params := (inputs.map fun i => (i.snake, "wgpu :: VertexStepMode")) ++ overridesParam m
    entryConst := "ENTRY_" ++ e.upper
    buffers := inputs.map fun i => (i.name, i.snake)
    constants := constSrc m }

theorem vertexEntries_mem {m : Module} {ves : List RVertexEntry} (h : vertexEntries m = .ok ves)
    {v : RVertexEntry} (hv : v ∈ ves) :
    ∃ e ∈ m.entries.filter fun e => e.stage == .vertex, ∃ inputs,
      vertexEntryStructs m e = .ok inputs ∧ v = vertexEntryOf m e inputs := by
  obtain ⟨e, he, hfe⟩ := mapM_ok_mem h v hv
  obtain ⟨inputs, hin, hfe⟩ := Except.bind_ok hfe
  cases hfe
  exact ⟨e, he, inputs, hin, rfl⟩

theorem vertexEntries_map {m : Module} {ves : List RVertexEntry} (h : vertexEntries m = .ok ves)
    {γ : Type} {p : RVertexEntry → γ} {q : EntryPoint → γ}
    (hpq : ∀ e inputs, vertexEntryStructs m e = .ok inputs → p (vertexEntryOf m e inputs) = q e) :
    ves.map p = (m.entries.filter fun e => e.stage == .vertex).map q := by
  refine mapM_ok_map_eq h (fun e _ v hv => ?_)
  obtain ⟨inputs, hin, hv⟩ := Except.bind_ok hv
  cases hv
  exact hpq e inputs hin

end WgslVerif
