/-
Facts about `List`, `Option`, `if` and `max` that core does not have under a name.
-/
namespace WgslVerif

theorem unless_none {β : Type} {c : Prop} [Decidable c] {x : β} : (if c then none else some x) = none ↔ c := by
  split <;> simp [*]

theorem when_none {β : Type} {c : Prop} [Decidable c] {x : β} : (if c then some x else none) = none ↔ ¬ c := by
  split <;> simp [*]

theorem unless_nil {β : Type} {c : Prop} [Decidable c] {x : β} : (if c then [] else [x]) = [] ↔ c := by
  split <;> simp [*]

theorem when_nil {β : Type} {c : Prop} [Decidable c] {x : β} : (if c then [x] else []) = [] ↔ ¬ c := by
  split <;> simp [*]

theorem ite_sublist {α : Type} (c : Prop) [Decidable c] (l : List α) : List.Sublist (if c then l else []) l := by
  split
  · exact .refl _
  · exact List.nil_sublist _

theorem exists_mem_map {α β : Type} {f : α → β} {l : List α} {P : β → Prop} :
    (∃ y ∈ l.map f, P y) ↔ ∃ x ∈ l, P (f x) := by
  simp only [List.mem_map]
  exact ⟨fun ⟨_, ⟨x, hx, rfl⟩, h⟩ => ⟨x, hx, h⟩, fun ⟨x, hx, h⟩ => ⟨_, ⟨x, hx, rfl⟩, h⟩⟩

theorem mem_map_some {α β : Type} {l : List α} {f : α → β} {ys : List (Option β)}
    (h : l.map (fun a => some (f a)) = ys) {b : β} : some b ∈ ys ↔ b ∈ l.map f := by
  subst h
  simp only [List.mem_map, Option.some.injEq]

theorem nodup_of_map_some {α β : Type} {l : List α} {f : α → β} {ys : List (Option β)}
    (h : l.map (fun a => some (f a)) = ys) (hy : ys.Nodup) : (l.map f).Nodup := by
  subst h
  rw [List.Nodup, List.pairwise_map] at hy ⊢
  exact hy.imp fun hab e => hab (congrArg some e)

theorem map_fst_map_pair {α β : Type} (f : α → β) (l : List α) :
    (l.map fun k => (k, f k)).map (·.1) = l := by
  rw [List.map_map]
  exact List.map_id'' (fun _ => rfl) l

theorem contains_congr {α : Type} [BEq α] [LawfulBEq α] {a b : List α} (h : ∀ x, x ∈ a ↔ x ∈ b) (x : α) :
    a.contains x = b.contains x := by
  rw [Bool.eq_iff_iff, List.contains_iff_mem, List.contains_iff_mem]
  exact h x

theorem filterMap_nodup_inj {α β : Type} {f : α → Option β} {l : List α} (h : (l.filterMap f).Nodup)
    {a b : α} {x : β} (ha : a ∈ l) (hb : b ∈ l) (fa : f a = some x) (fb : f b = some x) : a = b := by
  -- two positions of `l` do not both carry `x`
  have hp := List.pairwise_filterMap.mp h
  exact List.Pairwise.forall_of_forall_of_flip (R := fun a b => f a = some x → f b = some x → a = b)
    (fun _ _ _ _ => rfl) (hp.imp fun h fa fb => (h _ fa _ fb rfl).elim) (hp.imp fun h fb fa => (h _ fa _ fb rfl).elim)
    ha hb fa fb

theorem nodup_map_inj {α β : Type} {f : α → β} {l : List α} (h : (l.map f).Nodup) {a b : α}
    (ha : a ∈ l) (hb : b ∈ l) (hab : f a = f b) : a = b :=
  filterMap_nodup_inj (f := fun x => some (f x)) (by simpa [List.filterMap_eq_map] using h) ha hb rfl
    (congrArg some hab.symm)

theorem find?_key {α β : Type} [DecidableEq β] {f : α → Option β} {l : List α} (h : (l.filterMap f).Nodup)
    {a : α} {x : β} (ha : a ∈ l) (fa : f a = some x) : l.find? (fun b => f b == some x) = some a := by
  cases hfind : l.find? (fun b => f b == some x) with
  | none => simpa [fa] using List.find?_eq_none.mp hfind a ha
  | some b =>
    rw [filterMap_nodup_inj h (List.mem_of_find?_eq_some hfind) ha (by simpa using List.find?_some hfind) fa]

theorem nodup_lt_length (n : Nat) (l : List Nat) (hn : l.Nodup) (hb : ∀ x ∈ l, x < n) : l.length ≤ n := by
  simpa using hn.length_le_of_subset (l₂ := List.range n) (fun x hx => List.mem_range.mpr (hb x hx))

theorem eq_range_of_pairwise_lt {l : List Nat} {n : Nat} (hp : l.Pairwise (· < ·))
    (hk : ∀ k, k ∈ l ↔ k < n) : l = List.range n := by
  refine List.Perm.eq_of_pairwise (fun a b _ _ h h' => absurd h (Nat.lt_asymm h')) hp
    List.pairwise_lt_range ?_
  exact (List.perm_ext_iff_of_nodup (hp.imp Nat.ne_of_lt) List.nodup_range).mpr
    fun k => by rw [hk, List.mem_range]

/-- `filterMap` by a partial inverse of `g` keeps the `b` whose `g b` is in the list -/
theorem mem_filterMap_inv {α β : Type} {f : α → Option β} {g : β → α} (h : ∀ a b, f a = some b ↔ a = g b)
    {l : List α} {b : β} : b ∈ l.filterMap f ↔ g b ∈ l := by
  simp only [List.mem_filterMap, h, exists_eq_right]

/-- `max` returns one of its arguments -/
theorem max_ind (P : Nat → Prop) {a b : Nat} (ha : P a) (hb : P b) : P (max a b) := by
  rcases Std.max_eq_or (a := a) (b := b) with h | h
  · rwa [h]
  · rwa [h]

theorem le_foldr_max {α : Type} (f : α → Nat) {l : List α} {x : α} (hx : x ∈ l) :
    f x ≤ (l.map f).foldr max 0 := by
  induction l with
  | nil => cases hx
  | cons y ys ih =>
    rcases List.mem_cons.mp hx with rfl | hx
    · exact Nat.le_max_left _ _
    · exact Nat.le_trans (ih hx) (Nat.le_max_right _ _)

theorem sum_map_le {α : Type} (f : α → Nat) (B : Nat) {l : List α} (h : ∀ x ∈ l, f x ≤ B) :
    (l.map f).sum ≤ B * l.length := by
  induction l with
  | nil => simp
  | cons y ys ih =>
    have := h y (by simp)
    have := ih (fun x hx => h x (by simp [hx]))
    simp only [List.map_cons, List.sum_cons, List.length_cons, Nat.mul_succ]
    omega

/-- The loops of both traversals (stages, type closure): a relation between the states before and after a
stretch of work, indexed by the items worked through, that holds of no work and composes along `++`, holds
along a left fold as soon as it holds of every single step. -/
theorem foldl_rel {α σ : Type} {Q : List α → σ → σ → Prop} (nil : ∀ s, Q [] s s)
    (append : ∀ {l1 l2 a b c}, Q l1 a b → Q l2 b c → Q (l1 ++ l2) a c) (f : σ → α → σ) :
    ∀ (l : List α), (∀ x ∈ l, ∀ s, Q [x] s (f s x)) → ∀ s, Q l s (l.foldl f s)
  | [], _, s => nil s
  | x :: l, h, s =>
      append (l1 := [x]) (h x (by simp) s) (foldl_rel nil append f l (fun y hy => h y (by simp [hy])) _)

/-- a measure that grows by at most `K` in each step of a fold -/
theorem foldl_le_length_mul {α σ : Type} (f : σ → α → σ) (μ : σ → Nat) (K : Nat) :
    ∀ (l : List α), (∀ x ∈ l, ∀ s, μ (f s x) ≤ μ s + K) → ∀ s, μ (l.foldl f s) ≤ μ s + l.length * K :=
  fun l h => foldl_rel (Q := fun l s s' => μ s' ≤ μ s + l.length * K) (fun s => by simp)
    (fun h1 h2 => by rw [List.length_append, Nat.add_mul]; omega) f l
    (fun x hx s => by simpa using h x hx s)

end WgslVerif
